/-
  The flow key (Model/FlowKey.lean): the walk equals its closed form (`keyLoop_eq_flowKey`), two address
  values print alike exactly when they are the same address (`ipText_eq_iff`, through the canonical bytes
  `canon` / `unText`), and what a key says about its record (`flowKey_some`, `flowKey_eq_iff`).
-/
import IpfixModel.Model.FlowKey
namespace Ipfix.FlowKey

/-- the cases follow the walk: a missing port or protocol ends it at once, an IPv6 address is looked at
    only where the IPv4 address of its side is missing -/
theorem keyLoop_eq_flowKey (r : KeyRec) : keyLoop r = flowKey r := by
  obtain ⟨sp, dp, pr, s4, d4, s6, d6⟩ := r
  cases sp
  · rfl
  cases dp
  · rfl
  cases pr
  · rfl
  cases s4 <;> cases d4
  · cases s6
    · rfl
    · cases d6 <;> rfl
  · cases s6 <;> rfl
  · cases d6 <;> rfl
  · rfl

/-- an address value in the form every comparison can use: its 16-byte form when it has one, else the
    bytes as they are -/
def canon (b : Bytes) : Bytes := (to16 b).getD b

theorem canon_len4 {b : Bytes} (h : b.length = 4) : canon b = v4InV6Prefix ++ b := by
  simp [canon, to16, h]

theorem canon_of_ne4 {b : Bytes} (h : b.length ≠ 4) : canon b = b := by
  unfold canon to16
  rw [if_neg h]
  split <;> rfl

theorem ipText_len4 {b : Bytes} (h : b.length = 4) : ipText b = .v4 b := by
  simp [ipText, to4, h]

theorem ipText_len16_mapped {b : Bytes} (h : b.length = 16) (hp : b.take 12 = v4InV6Prefix) :
    ipText b = .v4 (b.drop 12) := by
  simp [ipText, to4, h, hp]

theorem ipText_len16_plain {b : Bytes} (h : b.length = 16) (hp : b.take 12 ≠ v4InV6Prefix) :
    ipText b = .v6 b := by
  simp [ipText, to4, h, hp]

theorem ipText_other {b : Bytes} (h4 : b.length ≠ 4) (h16 : b.length ≠ 16) :
    ipText b = if b.length = 0 then .nil else .bad b := by
  simp [ipText, h4, h16]

theorem prefix_len : v4InV6Prefix.length = 12 := rfl

/-- the bytes a text stands for: the 16-byte form of an address, else the bytes as they are -/
def unText : IPText → Bytes
  | .v4 p => v4InV6Prefix ++ p
  | .v6 b => b
  | .bad b => b
  | .nil => []
  | .unset => []

theorem unText_ipText (b : Bytes) : unText (ipText b) = canon b := by
  by_cases h4 : b.length = 4
  · rw [ipText_len4 h4, canon_len4 h4]
    rfl
  · rw [canon_of_ne4 h4]
    by_cases h16 : b.length = 16
    · by_cases hp : b.take 12 = v4InV6Prefix
      · rw [ipText_len16_mapped h16 hp]
        show v4InV6Prefix ++ b.drop 12 = b
        rw [← hp]
        exact List.take_append_drop 12 b
      · rw [ipText_len16_plain h16 hp]
        rfl
    · rw [ipText_other h4 h16]
      split
      · next h0 => exact (List.length_eq_zero_iff.mp h0).symm
      · rfl

theorem ipText_canon (b : Bytes) : ipText (canon b) = ipText b := by
  by_cases h4 : b.length = 4
  · have hl : (v4InV6Prefix ++ b).length = 16 := by simp [prefix_len, h4]
    rw [canon_len4 h4, ipText_len4 h4, ipText_len16_mapped hl (List.take_left' prefix_len),
      List.drop_left' prefix_len]
  · rw [canon_of_ne4 h4]

/-- the texts of two address values agree exactly when the values are the same address: the text
    determines the canonical bytes (`unText_ipText`) and the canonical bytes the text (`ipText_canon`) -/
theorem ipText_eq_iff (a b : Bytes) : ipText a = ipText b ↔ canon a = canon b := by
  constructor
  · intro h
    rw [← unText_ipText, ← unText_ipText, h]
  · intro h
    rw [← ipText_canon a, ← ipText_canon b, h]

theorem sideAddr_isSome (a b : Option Bytes) : (sideAddr a b).isSome = (a.isSome || b.isSome) := by
  cases a <;> rfl

theorem flowKey_isSome (r : KeyRec) :
    (flowKey r).isSome = (r.sport.isSome && r.dport.isSome && r.proto.isSome &&
      (r.src4.isSome || r.src6.isSome) && (r.dst4.isSome || r.dst6.isSome)) := by
  unfold flowKey
  rw [← sideAddr_isSome, ← sideAddr_isSome]
  cases r.sport
  · rfl
  cases r.dport
  · rfl
  cases r.proto
  · rfl
  cases sideAddr r.src4 r.src6
  · rfl
  cases sideAddr r.dst4 r.dst6 <;> rfl

theorem flowKey_some {r : KeyRec} {k : Key} {f : Bool} (h : flowKey r = some (k, f)) :
    ∃ sp dp pr s d, r.sport = some sp ∧ r.dport = some dp ∧ r.proto = some pr ∧
      sideAddr r.src4 r.src6 = some s ∧ sideAddr r.dst4 r.dst6 = some d ∧
      k = { src := ipText s, dst := ipText d, proto := pr, sport := sp, dport := dp } ∧
      f = (r.src4.isSome && r.dst4.isSome) := by
  unfold flowKey at h
  split at h
  · -- all five are there: the pattern variables, then one equation per scrutinee, in the order of the `match`
    next sp dp pr s d e1 e2 e3 e4 e5 =>
    simp only [Option.some.injEq, Prod.mk.injEq] at h
    exact ⟨sp, dp, pr, s, d, e1, e2, e3, e4, e5, h.1.symm, h.2.symm⟩
  · cases h

theorem sameTuple_nums {a b : KeyRec} (h : sameTuple a b = true) :
    a.sport = b.sport ∧ a.dport = b.dport ∧ a.proto = b.proto := by
  simp only [sameTuple, Bool.and_eq_true, beq_iff_eq] at h
  exact ⟨h.1.1.1.1, h.1.1.1.2, h.1.1.2⟩

theorem flowKey_eq_iff (r1 r2 : KeyRec) (k1 k2 : Key) (f1 f2 : Bool)
    (h1 : flowKey r1 = some (k1, f1)) (h2 : flowKey r2 = some (k2, f2)) :
    k1 = k2 ↔ sameTuple r1 r2 = true := by
  obtain ⟨sp1, dp1, pr1, s1, d1, a1, a2, a3, a4, a5, hk1, -⟩ := flowKey_some h1
  obtain ⟨sp2, dp2, pr2, s2, d2, b1, b2, b3, b4, b5, hk2, -⟩ := flowKey_some h2
  subst hk1 hk2
  simp only [sameTuple, a1, a2, a3, a4, a5, b1, b2, b3, b4, b5, Key.mk.injEq, Option.map_some, Bool.and_eq_true,
    beq_iff_eq, Option.some.injEq]
  constructor
  · rintro ⟨a, b, c, d, e⟩
    exact ⟨⟨⟨⟨d, e⟩, c⟩, a⟩, b⟩
  · rintro ⟨⟨⟨⟨d, e⟩, c⟩, a⟩, b⟩
    exact ⟨a, b, c, d, e⟩

end Ipfix.FlowKey
