/-
  Lemmas about the container/heap model (IpfixModel/Model/Heap.lean): permutation and size facts
  for up / down / push / pop / fix, and preservation of the heap order (`Ordered`) by push, pop
  and fix. The heap order is read as a statement about the edges `Child p c` of the tree laid over
  the slice; the sift loops keep `Hole a n h v`: heap order if the entry at `h` had key `v`, and one
  `Hole.move` says when a swap moves the hole, for both loops.
-/
import IpfixModel.Model.Heap
namespace Ipfix.Heap
variable {α : Type} [Inhabited α] (key : α → Nat)

theorem get!_of_lt (a : Array α) (k : Nat) (h : k < a.size) : a[k]! = a[k] :=
  getElem!_pos a k h

omit [Inhabited α] in
theorem swap_perm (a : Array α) (i j : Nat) :
    (a.swapIfInBounds i j).toList.Perm a.toList := by
  unfold Array.swapIfInBounds
  split
  · split
    · exact Array.perm_iff_toList_perm.mp (Array.swap_perm _ _)
    · exact List.Perm.refl _
  · exact List.Perm.refl _

theorem swap_get!_left (a : Array α) {i j : Nat} (hi : i < a.size) (hj : j < a.size) :
    (a.swapIfInBounds i j)[i]! = a[j]! := by
  rw [get!_of_lt _ _ (by simpa using hi), get!_of_lt _ _ hj, Array.getElem_swapIfInBounds_left hj]

theorem swap_get!_right (a : Array α) {i j : Nat} (hi : i < a.size) (hj : j < a.size) :
    (a.swapIfInBounds i j)[j]! = a[i]! := by
  rw [get!_of_lt _ _ (by simpa using hj), get!_of_lt _ _ hi, Array.getElem_swapIfInBounds_right hi]

theorem swap_get!_ne (a : Array α) {i j k : Nat} (h1 : k ≠ i) (h2 : k ≠ j) :
    (a.swapIfInBounds i j)[k]! = a[k]! := by
  by_cases hk : k < a.size
  · rw [get!_of_lt _ _ (by simpa using hk), get!_of_lt _ _ hk,
      Array.getElem_swapIfInBounds_of_ne_of_ne h1 h2]
  · rw [getElem!_neg (a.swapIfInBounds i j) k (by simpa using hk), getElem!_neg a k hk]

/-- `c` is a child of `p` in the binary tree container/heap lays over a slice -/
def Child (p c : Nat) : Prop := c = 2 * p + 1 ∨ c = 2 * p + 2

theorem Child.le {p c : Nat} (h : Child p c) : 2 * p + 1 ≤ c := by
  unfold Child at h
  omega

theorem Child.lt {p c : Nat} (h : Child p c) : p < c := by
  have := h.le
  omega

theorem Child.not_lt {p c n : Nat} (h : Child p c) (hn : n ≤ 2 * p + 1) : ¬ c < n :=
  fun hc => Nat.not_lt.mpr hn (Nat.lt_of_le_of_lt h.le hc)

theorem Child.unique {p q c : Nat} (h : Child p c) (h' : Child q c) : p = q := by
  unfold Child at h h'
  omega

theorem Child.parent {c : Nat} (h : 0 < c) : Child ((c - 1) / 2) c := by
  unfold Child
  omega

/-- the child `down` compares against: the smaller of the (at most two) children inside the prefix -/
def minChild (a : Array α) (i n : Nat) : Nat :=
  if 2 * i + 1 + 1 < n ∧ key a[2 * i + 1 + 1]! < key a[2 * i + 1]! then 2 * i + 1 + 1 else 2 * i + 1

theorem down_zero (a : Array α) (i n : Nat) : down key 0 a i n = (a, i) := rfl

theorem down_succ (f : Nat) (a : Array α) (i n : Nat) :
    down key (f + 1) a i n =
      if 2 * i + 1 ≥ n then (a, i)
      else if key a[minChild key a i n]! < key a[i]! then
        down key f (a.swapIfInBounds i (minChild key a i n)) (minChild key a i n) n
      else (a, i) := rfl

theorem up_zero (a : Array α) (j : Nat) : up key 0 a j = a := rfl

theorem up_succ (f : Nat) (a : Array α) (j : Nat) :
    up key (f + 1) a j =
      if j = 0 then a
      else if key a[j]! < key a[(j - 1) / 2]! then
        up key f (a.swapIfInBounds ((j - 1) / 2) j) ((j - 1) / 2)
      else a := rfl

theorem minChild_spec (a : Array α) (i n : Nat) (h : 2 * i + 1 < n) :
    Child i (minChild key a i n) ∧ minChild key a i n < n ∧
      ∀ c, Child i c → c < n → key a[minChild key a i n]! ≤ key a[c]! := by
  unfold minChild
  split
  · next hc =>
    refine ⟨Or.inr rfl, hc.1, ?_⟩
    rintro c (rfl | rfl) _
    · exact Nat.le_of_lt hc.2
    · exact Nat.le_refl _
  · next hc =>
    refine ⟨Or.inl rfl, h, ?_⟩
    rintro c (rfl | rfl) hcn
    · exact Nat.le_refl _
    · exact Nat.le_of_not_lt fun hh => hc ⟨hcn, hh⟩

/-- one iteration of `down`, read on the tree: either `i` is not above any child inside the prefix and
    the loop ends, or `i` is swapped with a least child `c` and the loop goes on from there -/
theorem down_step (f : Nat) (a : Array α) (i n : Nat) :
    (down key (f + 1) a i n = (a, i) ∧ ∀ c, Child i c → c < n → key a[i]! ≤ key a[c]!) ∨
    ∃ c, Child i c ∧ c < n ∧ (∀ d, Child i d → d < n → key a[c]! ≤ key a[d]!) ∧
      key a[c]! < key a[i]! ∧ down key (f + 1) a i n = down key f (a.swapIfInBounds i c) c n := by
  rw [down_succ]
  split
  · next h1 => exact .inl ⟨rfl, fun c hc hcn => absurd hcn (hc.not_lt h1)⟩
  · next h1 =>
    obtain ⟨hic, hc, hmin⟩ := minChild_spec key a i n (Nat.lt_of_not_ge h1)
    split
    · next hlt => exact .inr ⟨_, hic, hc, hmin, hlt, rfl⟩
    · next hlt =>
      exact .inl ⟨rfl, fun d hd hdn => Nat.le_trans (Nat.le_of_not_lt hlt) (hmin d hd hdn)⟩

theorem up_perm (fuel : Nat) (a : Array α) (j : Nat) :
    (up key fuel a j).toList.Perm a.toList := by
  induction fuel generalizing a j with
  | zero => exact List.Perm.refl _
  | succ f ih =>
    rw [up_succ]
    split
    · exact List.Perm.refl _
    · split
      · exact (ih _ _).trans (swap_perm _ _ _)
      · exact List.Perm.refl _

theorem up_size (fuel : Nat) (a : Array α) (j : Nat) : (up key fuel a j).size = a.size := by
  simpa using (up_perm key fuel a j).length_eq

theorem down_perm (fuel : Nat) (a : Array α) (i n : Nat) :
    (down key fuel a i n).1.toList.Perm a.toList := by
  induction fuel generalizing a i with
  | zero => exact List.Perm.refl _
  | succ f ih =>
    rw [down_succ]
    split
    · exact List.Perm.refl _
    · split
      · exact (ih _ _).trans (swap_perm _ _ _)
      · exact List.Perm.refl _

theorem down_size (fuel : Nat) (a : Array α) (i n : Nat) :
    (down key fuel a i n).1.size = a.size := by
  simpa using (down_perm key fuel a i n).length_eq

theorem push_perm (a : Array α) (x : α) : (push key a x).toList.Perm (x :: a.toList) := by
  unfold push
  refine (up_perm key _ _ _).trans ?_
  rw [Array.toList_push]
  exact List.perm_append_singleton _ _

theorem push_size (a : Array α) (x : α) : (push key a x).size = a.size + 1 := by
  simpa using (push_perm key a x).length_eq

theorem fix_perm (a : Array α) (i : Nat) : (fix key a i).toList.Perm a.toList := by
  unfold fix
  dsimp only
  split
  · exact down_perm key _ _ _ _
  · exact up_perm key _ _ _

theorem fix_size (a : Array α) (i : Nat) : (fix key a i).size = a.size := by
  simpa using (fix_perm key a i).length_eq

theorem pop_none_iff (a : Array α) : pop key a = none ↔ a.size = 0 := by
  unfold pop
  split <;> simp_all

/-- what `pop` returns, put back together, is the array after the swap and the sift -/
theorem push_eq_of_pop_eq_some {a a' : Array α} {x : α} (h : pop key a = some (x, a')) :
    ∃ n, a.size = n + 1 ∧ a'.push x = (down key (n + 1) (a.swapIfInBounds 0 n) 0 n).1 := by
  unfold pop at h
  split at h
  · cases h
  · next hne =>
    simp only [Option.some.injEq, Prod.mk.injEq] at h
    refine ⟨a.size - 1, by omega, ?_⟩
    rw [← h.1, ← h.2]
    generalize hb : (down key (a.size - 1 + 1) (a.swapIfInBounds 0 (a.size - 1)) 0 (a.size - 1)).1 = b
    have hbs : b.size = a.size := by rw [← hb, down_size, Array.size_swapIfInBounds]
    rw [← hbs]
    exact (Array.eq_push_pop_back!_of_size_ne_zero (by omega)).symm

theorem pop_perm {a a' : Array α} {x : α} (h : pop key a = some (x, a')) :
    a.toList.Perm (x :: a'.toList) := by
  obtain ⟨n, _, hb⟩ := push_eq_of_pop_eq_some key h
  have hp := (down_perm key (n + 1) _ 0 n).trans (swap_perm a 0 n)
  rw [← hb, Array.toList_push] at hp
  exact hp.symm.trans (List.perm_append_singleton _ _)

theorem pop_size {a a' : Array α} {x : α} (h : pop key a = some (x, a')) :
    a'.size + 1 = a.size := by
  simpa using (pop_perm key h).length_eq.symm

/-- heap order restricted to the prefix of length `n` -/
def OrderedN (a : Array α) (n : Nat) : Prop :=
  ∀ k, 0 < k → k < n → key a[(k - 1) / 2]! ≤ key a[k]!

theorem ordered_iff_orderedN (a : Array α) : Ordered key a ↔ OrderedN key a a.size := Iff.rfl

theorem orderedN_iff (a : Array α) (n : Nat) :
    OrderedN key a n ↔ ∀ p c, Child p c → c < n → key a[p]! ≤ key a[c]! := by
  constructor
  · intro h p c hc hn
    have hc0 : 0 < c := Nat.zero_lt_of_lt hc.lt
    have := h c hc0 hn
    rwa [(Child.parent hc0).unique hc] at this
  · intro h k hk0 hk
    exact h _ k (Child.parent hk0) hk

/-- heap order on the prefix `n` if the entry at `h` had key `v`: the edges that do not touch `h` are
    in order, the parent of `h` is at most `v`, its children are at least `v` -/
structure Hole (a : Array α) (n h v : Nat) : Prop where
  edge : ∀ p c, Child p c → c < n → p ≠ h → c ≠ h → key a[p]! ≤ key a[c]!
  above : ∀ p, Child p h → h < n → key a[p]! ≤ v
  below : ∀ c, Child h c → c < n → v ≤ key a[c]!

theorem Hole.ordered {a : Array α} {n h v : Nat} (hh : Hole key a n h v)
    (hup : ∀ p, Child p h → h < n → key a[p]! ≤ key a[h]!)
    (hdn : ∀ c, Child h c → c < n → key a[h]! ≤ key a[c]!) : OrderedN key a n := by
  rw [orderedN_iff]
  intro p c hc hn
  by_cases h1 : c = h
  · subst h1
    exact hup p hc hn
  · by_cases h2 : p = h
    · subst h2
      exact hdn c hc hn
    · exact hh.edge p c hc hn h2 h1

theorem hole_of_eq_except {a b : Array α} {n i : Nat} (h : OrderedN key a n)
    (hb : ∀ k, k ≠ i → k < n → b[k]! = a[k]!) : Hole key b n i (key a[i]!) := by
  rw [orderedN_iff] at h
  refine ⟨fun p c hc hcn hp hci => ?_, fun p hp hin => ?_, fun c hc hcn => ?_⟩
  · rw [hb p hp (Nat.lt_trans hc.lt hcn), hb c hci hcn]
    exact h p c hc hcn
  · rw [hb p (Nat.ne_of_lt hp.lt) (Nat.lt_trans hp.lt hin)]
    exact h p i hp hin
  · rw [hb c (Nat.ne_of_gt hc.lt) hcn]
    exact h i c hc hcn

/-- one step of either sift. The entry at `h'` fits into the hole at `h`: it is not below the parent of
    `h` and not above its children. In `b` it sits at `h`; the hole is now at `h'`, with that
    entry's key. -/
theorem Hole.move {a b : Array α} {n h h' v : Nat} (hh : Hole key a n h v) (hn' : h' < n)
    (hne : h' ≠ h) (hup : ∀ p, Child p h → key a[p]! ≤ key a[h']!)
    (hdn : ∀ c, Child h c → c < n → key a[h']! ≤ key a[c]!)
    (hbh : b[h]! = a[h']!) (hb : ∀ k, k ≠ h → k ≠ h' → b[k]! = a[k]!) :
    Hole key b n h' (key a[h']!) := by
  refine ⟨fun p c hc hcn hp' hc' => ?_, fun p hp _ => ?_, fun c hc hcn => ?_⟩
  · by_cases hch : c = h
    · subst hch
      rw [hbh, hb p (Nat.ne_of_lt hc.lt) hp']
      exact hup p hc
    · rw [hb c hch hc']
      by_cases hph : p = h
      · subst hph
        rw [hbh]
        exact hdn c hc hcn
      · rw [hb p hph hp']
        exact hh.edge p c hc hcn hph hch
  · by_cases hph : p = h
    · subst hph
      rw [hbh]
      exact Nat.le_refl _
    · rw [hb p hph (Nat.ne_of_lt hp.lt)]
      exact hh.edge p h' hp hn' hph hne
  · by_cases hch : c = h
    · subst hch
      rw [hbh]
      exact Nat.le_refl _
    · rw [hb c hch (Nat.ne_of_gt hc.lt)]
      exact hh.edge h' c hc hcn hne hch

theorem up_ordered (fuel : Nat) (a : Array α) (j n v : Nat) (hn : n ≤ a.size) (hj : j < n)
    (hf : j < fuel) (hh : Hole key a n j v)
    (hdn : ∀ c, Child j c → c < n → key a[j]! ≤ key a[c]!) :
    OrderedN key (up key fuel a j) n := by
  induction fuel generalizing a j v with
  | zero => omega
  | succ f ih =>
    rw [up_succ]
    split
    · next hj0 => exact hh.ordered key (fun p hp => absurd hp.lt (by omega)) hdn
    · next hj0 =>
      have hij := Child.parent (Nat.pos_of_ne_zero hj0)
      split
      · next hlt =>
        have hj' : j < a.size := Nat.lt_of_lt_of_le hj hn
        have hi' : (j - 1) / 2 < a.size := Nat.lt_trans hij.lt hj'
        have hi : (j - 1) / 2 < n := Nat.lt_trans hij.lt hj
        -- the parent fits into the hole: `v` is between it and the children of `j`
        have h1 := hh.move key hi (Nat.ne_of_lt hij.lt)
          (fun p hp => by rw [hp.unique hij]; exact Nat.le_refl _)
          (fun c hc hcn => Nat.le_trans (hh.above _ hij hj) (hh.below c hc hcn))
          (swap_get!_right a hi' hj') fun k hkj hki => swap_get!_ne a hki hkj
        have hif : (j - 1) / 2 < f := by
          have := hij.lt
          omega
        refine ih _ _ _ (Array.size_swapIfInBounds.symm ▸ hn) hi hif h1 fun c hc hcn => ?_
        rw [swap_get!_left a hi' hj']
        exact Nat.le_trans (Nat.le_of_lt hlt) (h1.below c hc hcn)
      · next hlt =>
        refine hh.ordered key (fun p hp _ => ?_) hdn
        rw [hp.unique hij]
        exact Nat.le_of_not_lt hlt

theorem push_get!_lt (a : Array α) (x : α) (k : Nat) (hk : k < a.size) :
    (a.push x)[k]! = a[k]! := by
  rw [get!_of_lt _ _ (by simp; omega), get!_of_lt _ _ hk, Array.getElem_push_lt hk]

theorem push_ordered {a : Array α} (h : Ordered key a) (x : α) :
    Ordered key (push key a x) := by
  rw [ordered_iff_orderedN, push_size]
  rw [ordered_iff_orderedN, orderedN_iff] at h
  -- the new last node has no children; its parent's key will do for the hole
  refine up_ordered key _ (a.push x) a.size _ (key a[(a.size - 1) / 2]!) (by simp) (by omega)
    (by omega) ⟨?_, ?_, ?_⟩ ?_
  · intro p c hc hcn hp hca
    have hc' : c < a.size := by omega
    rw [push_get!_lt _ _ _ hc', push_get!_lt _ _ _ (Nat.lt_trans hc.lt hc')]
    exact h p c hc hc'
  · intro p hp _
    rw [push_get!_lt _ _ _ hp.lt, hp.unique (Child.parent (Nat.zero_lt_of_lt hp.lt))]
    exact Nat.le_refl _
  · intro c hc hcn
    exact absurd hcn (hc.not_lt (by omega))
  · intro c hc hcn
    exact absurd hcn (hc.not_lt (by omega))

theorem down_ordered (fuel : Nat) (a : Array α) (i n v : Nat) (hn : n ≤ a.size)
    (hf : n ≤ i + fuel) (hh : Hole key a n i v)
    (hup : ∀ p, Child p i → i < n → key a[p]! ≤ key a[i]!) :
    OrderedN key (down key fuel a i n).1 n := by
  induction fuel generalizing a i v with
  | zero => exact hh.ordered key hup fun c hc hcn => absurd hcn (hc.not_lt (by omega))
  | succ f ih =>
    obtain ⟨h, hdn⟩ | ⟨c, hic, hc, hmin, hlt, h⟩ := down_step key f a i n
    · rw [h]
      exact hh.ordered key hup hdn
    · rw [h]
      have hc' : c < a.size := Nat.lt_of_lt_of_le hc hn
      have hi' : i < a.size := Nat.lt_trans hic.lt hc'
      -- the least child fits into the hole: `v` is between the parent of `i` and that child
      have h1 := hh.move key hc (Nat.ne_of_gt hic.lt)
        (fun p hp => Nat.le_trans (hh.above p hp (Nat.lt_trans hic.lt hc)) (hh.below c hic hc)) hmin
        (swap_get!_left a hi' hc') fun k hki hkc => swap_get!_ne a hki hkc
      have := hic.lt
      refine ih _ c _ (Array.size_swapIfInBounds.symm ▸ hn) (by omega) h1 fun p hp _ => ?_
      rw [swap_get!_right a hi' hc']
      exact Nat.le_trans (h1.above p hp hc) (Nat.le_of_lt hlt)

theorem down_get!_ge (fuel : Nat) (a : Array α) (i n k : Nat) (hn : n ≤ a.size) (hk : n ≤ k) :
    (down key fuel a i n).1[k]! = a[k]! := by
  induction fuel generalizing a i with
  | zero => rfl
  | succ f ih =>
    obtain ⟨h, _⟩ | ⟨c, hic, hc, _, _, h⟩ := down_step key f a i n
    · rw [h]
    · -- the swap is inside the prefix, `k` is not
      have hck : c < k := Nat.lt_of_lt_of_le hc hk
      rw [h, ih _ _ (Array.size_swapIfInBounds.symm ▸ hn),
        swap_get!_ne a (Nat.ne_of_gt (Nat.lt_trans hic.lt hck)) (Nat.ne_of_gt hck)]

theorem ordered_root_le {a : Array α} (h : Ordered key a) (k : Nat) (hk : k < a.size) :
    key a[0]! ≤ key a[k]! := by
  induction k using Nat.strongRecOn with
  | _ k ih =>
    by_cases hk0 : k = 0
    · subst hk0
      exact Nat.le_refl _
    · have hp := (Child.parent (Nat.pos_of_ne_zero hk0)).lt
      exact Nat.le_trans (ih _ hp (Nat.lt_trans hp hk)) (h k (Nat.pos_of_ne_zero hk0) hk)

theorem ordered_root_min {a : Array α} (h : Ordered key a) :
    ∀ y ∈ a.toList, key a[0]! ≤ key y := by
  intro y hy
  obtain ⟨k, hk, rfl⟩ := List.mem_iff_getElem.mp hy
  have hk' : k < a.size := by simpa using hk
  have := ordered_root_le key h k hk'
  rw [get!_of_lt _ _ hk'] at this
  simpa using this

theorem pop_ordered {a a' : Array α} {x : α} (h : Ordered key a)
    (hp : pop key a = some (x, a')) :
    Ordered key a' ∧ (∀ y ∈ a'.toList, key x ≤ key y) ∧ x = a[0]! := by
  obtain ⟨n, hn, hb⟩ := push_eq_of_pop_eq_some key hp
  have hn' : a'.size = n := Nat.add_right_cancel ((pop_size key hp).trans hn)
  have h0 : 0 < a.size := by omega
  have hna : n < a.size := by omega
  have hs : n ≤ (a.swapIfInBounds 0 n).size := by
    rw [Array.size_swapIfInBounds]
    exact Nat.le_of_lt hna
  -- after the swap the first `n` entries are those of `a` with the root replaced
  have hh : Hole key (a.swapIfInBounds 0 n) n 0 (key a[0]!) :=
    hole_of_eq_except key (fun k hk0 hk => h k hk0 (Nat.lt_trans hk hna))
      fun k hk0 hkn => swap_get!_ne a hk0 (Nat.ne_of_lt hkn)
  have hord := down_ordered key (n + 1) _ 0 n _ hs (by omega) hh
    fun p hp0 => absurd hp0.lt (Nat.not_lt_zero _)
  have hget := down_get!_ge key (n + 1) (a.swapIfInBounds 0 n) 0 n n hs (Nat.le_refl _)
  rw [← hb] at hord hget
  -- the sift left the old root in the last place, which is what `pop` hands out
  have hx : x = a[0]! := by
    rw [swap_get!_right a h0 hna, ← hn'] at hget
    simpa using hget
  refine ⟨?_, ?_, hx⟩
  · intro k hk0 hk
    have hkn : k < n := hn' ▸ hk
    have := hord k hk0 hkn
    rwa [push_get!_lt _ _ _ hk, push_get!_lt _ _ _ (Nat.lt_trans (Child.parent hk0).lt hk)] at this
  · intro y hy
    rw [hx]
    exact ordered_root_min key h y ((pop_perm key hp).mem_iff.mpr (List.mem_cons_of_mem _ hy))

theorem down_snd_ge (fuel : Nat) (a : Array α) (i n : Nat) : i ≤ (down key fuel a i n).2 := by
  induction fuel generalizing a i with
  | zero => exact Nat.le_refl _
  | succ f ih =>
    obtain ⟨h, _⟩ | ⟨c, hic, _, _, _, h⟩ := down_step key f a i n
    · rw [h]
      exact Nat.le_refl _
    · rw [h]
      exact Nat.le_trans (Nat.le_of_lt hic.lt) (ih _ _)

/-- Go's `heap.Fix` contract: if `b` differs from an ordered heap only at position `i`, then
`fix` at `i` restores the heap order. -/
theorem fix_ordered_of_eq_except {a : Array α} (b : Array α) (i : Nat) (hs : b.size = a.size)
    (hb : ∀ k, k ≠ i → b[k]! = a[k]!) (h : Ordered key a) (hi : i < a.size) :
    Ordered key (fix key b i) := by
  rw [ordered_iff_orderedN, fix_size]
  rw [ordered_iff_orderedN, ← hs] at h
  have hh := hole_of_eq_except key h fun k hk _ => hb k hk
  unfold fix
  dsimp only
  obtain ⟨hd, hdn⟩ | ⟨c, hic, hc, _, hlt, hd⟩ := down_step key b.size b i b.size
  · -- `down` did not move: the new entry is not above its children
    rw [hd, if_neg (Nat.lt_irrefl i)]
    exact up_ordered key _ b i _ _ (Nat.le_refl _) (by omega) (by omega) hh hdn
  · -- `down` moved: the new entry is above a child, the old entry was between that child and the parent
    have hmv : (down key (b.size + 1) b i b.size).2 > i := by
      rw [hd]
      exact Nat.lt_of_lt_of_le hic.lt (down_snd_ge key _ _ c _)
    rw [if_pos hmv]
    refine down_ordered key _ b i _ _ (Nat.le_refl _) (by omega) hh fun p hp hin => ?_
    exact Nat.le_of_lt (Nat.lt_of_le_of_lt (Nat.le_trans (hh.above p hp hin) (hh.below c hic hc)) hlt)

theorem fix_ordered {a : Array α} {i : Nat} (h : Ordered key a) (hi : i < a.size) (y : α) :
    Ordered key (fix key (a.set! i y) i) :=
  fix_ordered_of_eq_except key _ i (Array.size_set! a i y)
    (fun k hk => Array.getElem!_set!_ne a i k y (Ne.symm hk)) h hi

end Ipfix.Heap
