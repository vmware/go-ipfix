/-
  The bytes the exporter lays out, read back. Headers: big-endian fields at their offsets, under the
  collector's header reader and under the independent parser of Spec/Exp.lean. Field specifiers: that parser takes
  the same step as the collector's `readSpec` (`parseSpecs_succ`), so the exporter's `fieldSpec` is read back once, in
  Lemmas/Specifier.lean. Data records: what the record encoder writes is fields, records and a set body in the sense
  of the independent reading C03, for which the collector's readers are complete (Lemmas/Collector.lean) - that is
  the round trip.
-/
import IpfixModel.Lemmas.Specifier
import IpfixModel.Spec.Exp
namespace Ipfix
open Outcome ExpSpec

theorem u16_be (n : Nat) (rest : Bytes) (h : n < 65536) : u16 (be 2 n ++ rest) = n := by
  obtain ⟨hi, lo, e, hv⟩ := be_two_bytes n h
  rw [e]
  exact hv

theorem u32_eq_unbe (a c d e : UInt8) (r : Bytes) : u32 (a :: c :: d :: e :: r) = unbe [a, c, d, e] := by
  simp [u32, unbe]

theorem u32_be (n : Nat) (rest : Bytes) (h : n < 4294967296) : u32 (be 4 n ++ rest) = n := by
  obtain ⟨a, b, c, d, e, hv⟩ := be_four_bytes n h
  rw [e, ← hv]
  exact u32_eq_unbe a b c d rest

theorem parseSpecs_succ {b r : Bytes} {t : Spec} (n : Nat) (h : readSpec b = some (t, r)) :
    parseSpecs (n + 1) b = (parseSpecs n r).map fun (ts, rest) => (t :: ts, rest) := by
  obtain ⟨i0, i1, l0, l1, ⟨hb, rfl, rfl⟩ | ⟨hb, e0, e1, e2, e3, rfl, rfl⟩⟩ := readSpec_cases h
  · simp only [parseSpecs, if_neg (Nat.not_le_of_gt hb)]
  · simp only [parseSpecs, if_pos (hb : i0.toNat ≥ 128), u32_eq_unbe]

theorem parseHeader_wire {len time seq dom sid slen : Nat} {body : Bytes}
    (hlen : len < 65536) (ht : time < 4294967296) (hs : seq < 4294967296) (hd : dom < 4294967296)
    (hsid : sid < 65536) (hsl : slen < 65536) :
    parseHeader (msgHeader len time seq dom ++ (be 2 sid ++ (be 2 slen ++ body))) =
      some ({ version := 10, length := len, exportTime := time, seq := seq, dom := dom, setID := sid, setLen := slen }, body) := by
  have u2 : ∀ x, x < 65536 → unbe (be 2 x) = x := fun x h => unbe_be 2 x h
  have u4 : ∀ x, x < 4294967296 → unbe (be 4 x) = x := fun x h => unbe_be 4 x h
  unfold parseHeader msgHeader
  rw [if_neg (by simp; omega)]
  simp only [List.append_assoc, drop_be_append, take_be_append, Nat.reduceLeDiff, Nat.reduceSub, List.drop_zero,
    u2 10 (by omega), u2 len hlen, u4 time ht, u4 seq hs, u4 dom hd, u2 sid hsid, u2 slen hsl]

theorem parseMessage_wire {len time seq dom sid slen : Nat} {body : Bytes}
    (hlen : len < 65536) (ht : time < 4294967296) (hs : seq < 4294967296) (hd : dom < 4294967296)
    (hsid : sid < 65536) (hsl : slen < 65536) :
    parseMessage (msgHeader len time seq dom ++ (be 2 sid ++ (be 2 slen ++ body))) =
      some { version := 10, length := len, time := time, seq := seq, dom := dom, setId := sid, setLen := slen, body := body } := by
  unfold parseMessage msgHeader
  rw [if_neg (by simp; omega)]
  simp only [List.append_assoc, drop_be_append, Nat.reduceLeDiff, Nat.reduceSub, List.drop_zero,
    fun r => u16_be 10 r (by omega), fun r => u16_be len r hlen, fun r => u32_be time r ht, fun r => u32_be seq r hs,
    fun r => u32_be dom r hd, fun r => u16_be sid r hsid, fun r => u16_be slen r hsl]

section Records
open C03

theorem isField_fixed {ie : IE} {bs : Bytes} (hne : ie.len ≠ VariableLength) (hlen : bs.length = ie.len) :
    IsField ie bs bs := by
  unfold IsField
  rw [if_neg hne]
  exact ⟨rfl, hlen⟩

/-- the three-octet length form of RFC 7011 section 7, for a payload of any length up to 65535 -/
theorem isField_long {ie : IE} {b : Bytes} (hl : ie.len = VariableLength) (hb : b.length < 65536) :
    IsField ie (255 :: (be 2 b.length ++ b)) b := by
  obtain ⟨hi, lo, e, hv⟩ := be_two_bytes b.length hb
  unfold IsField
  rw [if_pos hl, e]
  exact .inr ⟨hi, lo, rfl, hv.symm⟩

theorem isField_encodeVar {ie : IE} {b bs : Bytes} (hl : ie.len = VariableLength) (h : encodeVar b = some bs) :
    IsField ie bs b := by
  unfold encodeVar at h
  split at h
  · rename_i hlt
    cases h
    have hn := u8_toNat_ofNat b.length (by omega)
    unfold IsField
    rw [if_pos hl]
    exact .inl ⟨_, rfl, by rw [hn]; exact hlt, hn.symm⟩
  · split at h
    · cases h
      exact isField_long hl (by omega)
    · cases h

theorem isField_encodeElem {ie : IE} {v : Value} {bs : Bytes} (hwf : ie.WF) (h : encodeElem ie v = some bs) :
    ∃ p, IsField ie bs p ∧ decodeElem ie p = .ok (C15.canon ie v) := by
  cases encodeElem_cases h with
  | octetFixed hty hfix hlen =>
    exact ⟨_, isField_fixed (Nat.ne_of_lt hfix) hlen, by simp [decodeElem, C15.canon, hty]⟩
  | octetVar hty hvar he =>
    have hl := Nat.le_antisymm ((IE.wf_octetArray hty).1 hwf).2 (Nat.le_of_not_lt hvar)
    exact ⟨_, isField_encodeVar hl he, by simp [decodeElem, C15.canon, hty]⟩
  | string hty he =>
    exact ⟨_, isField_encodeVar ((IE.wf_string hty).1 hwf) he, by simp [decodeElem, C15.canon, hty]⟩
  | @boolean b hty hl =>
    exact ⟨_, isField_fixed (by simp [hl]) (by simp [hl]), by cases b <;> simp [decodeElem, C15.canon, hty]⟩
  | mac hty hl hb =>
    exact ⟨_, isField_fixed (by simp [hl]) (by simp [hl, hb]), by simp [decodeElem, C15.canon, hty]⟩
  | ipv4 hty hl he =>
    exact ⟨_, isField_fixed (by simp [hl]) (by simp [hl, to4_length he]), by simp [decodeElem, C15.canon, hty, he]⟩
  | ipv6 hty hl he =>
    exact ⟨_, isField_fixed (by simp [hl]) (by simp [hl, to16_length he]), by simp [decodeElem, C15.canon, hty, he]⟩
  | num hnum hl hn =>
    have := DataType.width_pos_le hnum.width
    refine ⟨_, isField_fixed (by simp; omega) (by simp [hl]), ?_⟩
    rw [decodeElem_num _ hnum]
    simp [List.take_of_length_le, unbe_be _ _ hn, C15.canon]

/-- an element that can be encoded at all occupies at least one byte in a data record -/
theorem encodable_minLen_pos {ie : IE} {v : Value} {bs : Bytes} (hwf : ie.WF) (h : encodeElem ie v = some bs) :
    0 < ie.minLen := by
  have hpos : 0 < ie.len := by
    cases encodeElem_cases h with
    | octetFixed hty _ _ => exact ((IE.wf_octetArray hty).1 hwf).1
    | octetVar _ hvar _ => simp at hvar; omega
    | string hty _ => rw [(IE.wf_string hty).1 hwf]; decide
    | boolean _ hl => omega
    | mac _ hl _ => omega
    | ipv4 _ hl _ => omega
    | ipv6 _ hl _ => omega
    | num hnum hl _ => have := DataType.width_pos_le hnum.width; omega
  unfold IE.minLen
  split <;> omega

theorem isRecord_encodeRecord {es : List Elem} {bs : Bytes} (hwf : ∀ e ∈ es, e.1.WF)
    (h : encodeRecord es = some bs) :
    ∃ ss ps, IsRecord (es.map (·.1)) ss ps ∧ ss.flatten = bs ∧
      decodePayloads .keep (es.map (·.1)) ps = .ok (es.map fun e => C15.canon e.1 e.2) := by
  revert hwf
  refine encodeRecord_induction ?_ ?_ h
  · intro _
    exact ⟨[], [], .nil, rfl, rfl⟩
  · intro ie v t b bt he _ ih hwf
    obtain ⟨p, hf, hd⟩ := isField_encodeElem (hwf (ie, v) (by simp)) he
    obtain ⟨ss, ps, hr, rfl, hps⟩ := ih (fun x hx => hwf x (by simp [hx]))
    exact ⟨b :: ss, p :: ps, .cons hf hr, rfl, by simp [decodePayloads, hd, hps]⟩

/-- `henc` equates two lists of options: every record encodes (there is no `none` on the right), and `bodies` are the
    encodings, in order -/
theorem slices_encode (ies : List IE) (hmin : 0 < minRecordLen ies) (hwf : ∀ ie ∈ ies, ie.WF)
    (recs : List (List Elem)) (bodies : List Bytes) (hshape : ∀ r ∈ recs, r.map (·.1) = ies)
    (henc : recs.map encodeRecord = bodies.map some) :
    ∃ raw, Slices ies bodies.flatten raw [] ∧
      raw.map (decodePayloads .keep ies) = (recs.map fun r => r.map fun e => C15.canon e.1 e.2).map Outcome.ok := by
  induction recs generalizing bodies with
  | nil =>
    obtain rfl := List.map_eq_nil_iff.1 henc.symm
    exact ⟨[], .done hmin, rfl⟩
  | cons r rs ih =>
    obtain ⟨b, bs, rfl, hb, hbs⟩ := List.map_eq_cons_iff.1 henc.symm
    have hr : r.map (·.1) = ies := hshape r (by simp)
    obtain ⟨ss, ps, hrec, rfl, hps⟩ :=
      isRecord_encodeRecord (fun e he => hwf _ (hr ▸ List.mem_map_of_mem he)) hb.symm
    obtain ⟨raw, hsl, hraw⟩ := ih bs (fun x hx => hshape x (by simp [hx])) hbs.symm
    rw [hr] at hrec hps
    exact ⟨ps :: raw, .cons hrec hsl, by simp [hps, hraw]⟩

theorem decodeRecords_encode (ies : List IE) (hmin : 0 < minRecordLen ies) (hwf : ∀ ie ∈ ies, ie.WF)
    (recs : List (List Elem)) (bodies : List Bytes) (hshape : ∀ r ∈ recs, r.map (·.1) = ies)
    (henc : recs.map encodeRecord = bodies.map some) :
    decodeRecords .keep ies bodies.flatten = .ok (recs.map fun r => r.map fun e => C15.canon e.1 e.2) := by
  obtain ⟨raw, hsl, hraw⟩ := slices_encode ies hmin hwf recs bodies hshape henc
  exact decodeRecords_of_slices hmin hsl hraw

end Records

end Ipfix
