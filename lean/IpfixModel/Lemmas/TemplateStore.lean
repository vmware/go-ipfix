/-
  The template store as a finite map, and the template in force after a history of events (C04).
-/
import IpfixModel.Model.Collector
import IpfixModel.Spec.C04
import IpfixModel.Lemmas.Distinct
namespace Ipfix

theorem CState.lookup_mem {s : CState} {k : TKey} {t : Template} (h : s.lookup k = some t) :
    (k, t) ∈ s.templates :=
  mem_of_lookup h

theorem CState.mem_erase {s : CState} {k : TKey} {p : TKey × Template} (h : p ∈ (s.erase k).templates) :
    p ∈ s.templates ∧ p.1 ≠ k :=
  mem_filter_ne.1 h

theorem CState.mem_insert {s : CState} {k : TKey} {t : Template} {p : TKey × Template}
    (h : p ∈ (s.insert k t).templates) : p = (k, t) ∨ (p ∈ s.templates ∧ p.1 ≠ k) :=
  (List.mem_cons.1 h).imp_right CState.mem_erase

theorem CState.lookup_erase (s : CState) (k k' : TKey) :
    (s.erase k).lookup k' = if k = k' then none else s.lookup k' := by
  unfold CState.lookup CState.erase
  simp only [List.find?_filter]
  split
  · subst ‹k = k'›
    rw [List.find?_eq_none.mpr (by simp)]
    rfl
  · congr 2
    funext p
    by_cases hp : p.1 = k'
    · subst hp; simp [Ne.symm ‹_›]
    · simp [hp]

theorem CState.lookup_insert (s : CState) (k k' : TKey) (t : Template) :
    (s.insert k t).lookup k' = if k = k' then some t else s.lookup k' := by
  by_cases h : k = k'
  · simp [CState.lookup, CState.insert, h]
  · have := CState.lookup_erase s k k'
    rw [if_neg h] at this ⊢
    rw [← this]
    simp [CState.lookup, CState.insert, h]

namespace C04

/-- folding the events into the empty store, the template in force for `k` is what the declarative
    reading says, scanning from the most recent event back -/
theorem lookup_foldl_apply (evs : List TEvent) (k : TKey) :
    (evs.reverse.foldl TEvent.apply {}).lookup k = lastValid evs k := by
  induction evs with
  | nil => rfl
  | cons e evs ih =>
    rw [List.reverse_cons, List.foldl_append, List.foldl_cons, List.foldl_nil]
    cases e <;> simp only [TEvent.apply, lastValid, CState.lookup_insert, CState.lookup_erase, ih]

end C04
end Ipfix
