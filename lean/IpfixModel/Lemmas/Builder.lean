/-
  The record encoder, the set builder and CreateIPFIXMsg (Model/Builder.lean) by cases, and the bookkeeping invariant
  `C16.Inv`, which every builder operation keeps.
-/
import IpfixModel.Model.Builder
import IpfixModel.Lemmas.IE
namespace Ipfix

theorem foldl_none {α β : Type} {f : Option α → β → Option α} (h : ∀ b, f none b = none) (l : List β) :
    l.foldl f none = none := by
  induction l with
  | nil => rfl
  | cons b _ ih => rw [List.foldl_cons, h b, ih]

/-- an element as the exporter's `fieldSpec` can describe it in 2 + 2 (+ 4) bytes: the stated guard of C02 -/
def C02.SpecOK (ie : IE) : Prop := ie.id < 32768 ∧ ie.len < 65536 ∧ ie.ent < 4294967296

/-- a template record is a 4-byte head and at least 4 bytes per field -/
theorem templateRecordBytes_length (tid : Nat) (ies : List IE) :
    4 + ies.length * 4 ≤ (templateRecordBytes tid ies).length := by
  have : ies.length * 4 ≤ ((ies.map fieldSpec).flatten).length := by
    induction ies with
    | nil => exact Nat.le_refl 0
    | cons a t ih =>
      have : 4 ≤ (fieldSpec a).length := by unfold fieldSpec; split <;> simp
      simp only [List.map_cons, List.flatten_cons, List.length_append, List.length_cons]
      omega
  simp only [templateRecordBytes, List.length_append, be_length]
  omega

@[elab_as_elim]
theorem encodeRecord_induction {P : List Elem → Bytes → Prop} (nil : P [] [])
    (cons : ∀ {ie v t b bt}, encodeElem ie v = some b → encodeRecord t = some bt → P t bt →
      P ((ie, v) :: t) (b ++ bt))
    {es : List Elem} {bs : Bytes} (h : encodeRecord es = some bs) : P es bs := by
  induction es generalizing bs with
  | nil =>
    cases h
    exact nil
  | cons e t ih =>
    unfold encodeRecord at h
    split at h
    · cases h
      exact cons ‹_› ‹_› (ih ‹_›)
    · cases h

theorem encodeRecord_length (es : List Elem) (bs : Bytes) (h : encodeRecord es = some bs) :
    bs.length = recordLength es := by
  refine encodeRecord_induction rfl ?_ h
  intro ie v t b bt he _ ih
  simp only [recordLength, List.map_cons, List.sum_cons, List.length_append, encodeElem_length he] at ih ⊢
  rw [ih]

theorem SetB.new_prepare_template (id : Nat) :
    SetB.new.prepare .template id = some { header := be 2 Generated.cTemplateSetID ++ [0, 0], ty := .template } := rfl

theorem SetB.new_prepare_data (id : Nat) :
    SetB.new.prepare .data id = some { header := be 2 id ++ [0, 0], ty := .data } := rfl

theorem SetB.addRecord_eq_some {s s' : SetB} {es : List Elem} {tid : Nat} (h : s.addRecord es tid = some s') :
    ∃ r, s' = { s with recs := s.recs ++ [r], length := s.length + r.length } := by
  unfold SetB.addRecord at h
  split at h
  · split at h
    · exact ⟨_, (Option.some.inj h).symm⟩
    · cases h
  · split at h
    · exact ⟨_, (Option.some.inj h).symm⟩
    · cases h
  · cases h

theorem SetB.addRecordV2_eq_some {s s' : SetB} {es : List Elem} {tid : Nat} (h : s.addRecordV2 es tid = some s') :
    ∃ r, s' = { s with recs := s.recs ++ [r], length := s.length + r.length } := by
  unfold SetB.addRecordV2 at h
  split at h
  · split at h
    · exact ⟨_, (Option.some.inj h).symm⟩
    · cases h
  · exact ⟨_, (Option.some.inj h).symm⟩
  · cases h

theorem SetB.addRecordV2_data {s : SetB} (hty : s.ty = .data) (es : List Elem) (tid : Nat) :
    s.addRecordV2 es tid = (encodeRecord es).map fun bs =>
      { s with recs := s.recs ++ [{ isTemplate := false, tid := tid, fieldCount := es.length, elems := es, bytes := bs }],
               length := s.length + bs.length } := by
  simp only [SetB.addRecordV2, hty]
  cases encodeRecord es <;> rfl

theorem SetB.addRecordV2_template {s : SetB} (hty : s.ty = .template) (es : List Elem) (tid : Nat) :
    s.addRecordV2 es tid = some
      { s with recs := s.recs ++ [{ isTemplate := true, tid := tid, fieldCount := es.length, elems := es,
                                    bytes := templateRecordBytes tid (es.map (·.1)) }],
               length := s.length + (templateRecordBytes tid (es.map (·.1))).length } := by
  simp only [SetB.addRecordV2, hty]
  rfl

namespace C16

/-- the reported length of a set is its 4 header bytes plus the reported lengths of its records -/
def Inv (s : SetB) : Prop :=
  s.length = 4 + (s.recs.map Rec.length).sum ∧ s.header.length = 4

theorem Inv.push {s : SetB} (h : Inv s) (r : Rec) :
    Inv { s with recs := s.recs ++ [r], length := s.length + r.length } := by
  refine ⟨?_, h.2⟩
  simp only [List.map_append, List.sum_append, List.map_cons, List.map_nil, List.sum_cons, List.sum_nil, h.1]
  omega

theorem Inv.add {s : SetB} (h : Inv s) {o : Option SetB}
    (ho : ∀ {s'}, o = some s' → ∃ r, s' = { s with recs := s.recs ++ [r], length := s.length + r.length }) :
    Inv (o.getD s) := by
  cases o with
  | none => exact h
  | some s' =>
    obtain ⟨r, rfl⟩ := ho rfl
    exact h.push r

/-- PrepareSet rewrites the first two header bytes, or fails and leaves the set -/
theorem Inv.prepare {s : SetB} (h : Inv s) (ty : SetType) (id : Nat) : Inv ((s.prepare ty id).getD s) := by
  cases ty <;> simp [SetB.prepare, Inv, h.1, h.2, List.length_drop]

theorem Inv.reset (s : SetB) : Inv s.reset := ⟨rfl, rfl⟩

theorem Inv.updateLen {s : SetB} (h : Inv s) : Inv s.updateLen := by
  refine ⟨h.1, ?_⟩
  simp [SetB.updateLen, List.length_take, h.2]

theorem Inv.length_eq {s : SetB} (h : Inv s) : s.length = 4 + ((s.recs.map (·.bytes)).flatten).length := by
  rw [h.1, List.length_flatten, List.map_map]
  rfl

end C16

/-- CreateIPFIXMsg, with the regenerated `cMsgHeaderLength` and `cMaxSocketMsgSize` at their values 16 and 65535: the
    hypotheses of its `if` are matched below (`‹_›`) across the unfolding of the two constants -/
theorem createMsg_eq_some {s : SetB} {dom seq time : Nat} {w : Bytes} :
    createMsg s dom seq time = some w ↔
      16 + s.length ≤ 65535 ∧ w = msgHeader (16 + s.length) time seq dom ++ s.serialize := by
  unfold createMsg
  split
  · exact ⟨fun h => (nomatch h), fun h => absurd h.1 (Nat.not_le_of_gt ‹_›)⟩
  · exact ⟨fun h => ⟨Nat.le_of_not_gt ‹_›, (Option.some.inj h).symm⟩, fun h => congrArg some h.2.symm⟩

theorem createMsg_eq_none {s : SetB} {dom seq time : Nat} :
    createMsg s dom seq time = none ↔ 65535 < 16 + s.length := by
  unfold createMsg
  split
  · exact ⟨fun _ => ‹_›, fun _ => rfl⟩
  · exact ⟨fun h => (nomatch h), fun h => absurd h ‹_›⟩

end Ipfix
