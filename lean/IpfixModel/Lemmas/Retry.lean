/-
  Retry / drop bookkeeping of the expiry scan (the turns `drop` and `retry` of the loop, `Turn` in Lemmas/Sched.lean) for
  Props/C07.lean. `Bnd`, every held flow has `retries ≤ MaxRetries`, is preserved by every operation, scheduled state
  or not. `KeySpec` is the scan loop seen from one flow key, on top of the loop invariant of Lemmas/Sched.lean. `Waits`
  is what the rounds of Props/C07.lean (`Round`, `runRounds`, defined here) keep of a flow until they drop it:
  `Waits.scan` is what `KeySpec` gives for a whole scan, `Waits.round` for a scan after arrivals for other flows and a
  clock advance.
-/
import IpfixModel.Lemmas.Sched
namespace Ipfix.Agg

def Bnd (s : State) : Prop := ∀ p ∈ s.flows, p.2.retries ≤ Generated.cMaxRetries

theorem bnd_init (a i : Nat) : Bnd { activeT := a, inactiveT := i } := by
  intro p hp
  cases hp

theorem Bnd.set {s : State} (h : Bnd s) (k : Nat) (a : AggRec) (ha : a.retries ≤ Generated.cMaxRetries) :
    Bnd (s.set k a) := by
  intro p hp
  rcases mem_flows_set hp with hp | rfl
  · exact h p hp
  · exact ha

theorem Bnd.del {s : State} (h : Bnd s) (k : Nat) : Bnd (s.del k) := by
  intro p hp
  exact h p (List.mem_filter.mp hp).1

theorem Bnd.find {s : State} (h : Bnd s) {k : Nat} {a : AggRec} (hf : s.find k = some a) :
    a.retries ≤ Generated.cMaxRetries := h _ (mem_flows_of_find hf)

/-- the callback may have reset the statistics of the record it was shown -/
theorem Bnd.reset {s : State} (h : Bnd s) (c : Bool) {k : Nat} {a : AggRec} (hf : s.find k = some a) :
    Bnd (if c = true then s.set k (resetStats a) else s) := by
  split
  · refine h.set k _ ?_
    rw [resetStats_retries]
    exact h.find hf
  · exact h

theorem bnd_ingest (s : State) (r : InRec) (h : Bnd s) : Bnd (ingest s r) := by
  obtain ⟨q, e⟩ := ingest_eq_set s r
  rw [e]
  refine h.set _ _ ?_
  cases hf : s.find r.key with
  | none => exact Nat.zero_le _
  | some a =>
    rw [heldAfter, update_retries]
    exact h.find hf

section
variable {fail : Nat → Bool} {ra : Bool} {s s' : State} {it : Item} {tp tp' : List Item} {o o' : ScanOut}
  {r : State × List Item × ScanOut}

/-- the loop writes a raised counter only where it has just seen that the counter stays within the bound -/
theorem Turn.bnd (t : Turn fail ra s it tp o s' tp' o') (h : Bnd s) : Bnd s' := by
  cases t with
  | orphan => exact h
  | drop => exact h.del _
  | retry _ _ hlt => exact h.set _ _ hlt
  | expire hfind => exact (h.reset ra hfind).del _
  | rearm hfind => exact h.reset ra hfind

theorem Run.bnd (h : Run fail ra s tp o r) (hb : Bnd s) : Bnd r.1 := by
  induction h with
  | stop | abort => exact hb
  | turn _ _ _ t _ ih => exact ih (t.bnd hb)

end

theorem bnd_scan (s : State) (fail : Nat → Bool) (ra : Bool) (h : Bnd s) : Bnd (scan s fail ra).1 := by
  obtain ⟨r, hr, e⟩ := scan_eq s fail ra
  rw [e]
  exact hr.bnd h

theorem bnd_step (s : State) (op : Op) (h : Bnd s) : Bnd (step s op) := by
  cases op with
  | record r => exact bnd_ingest s r h
  | adv d => exact h
  | scan f ra => exact bnd_scan s _ ra h

theorem bnd_reachable (a i : Nat) (ops : List Op) : Bnd (ops.foldl step { activeT := a, inactiveT := i }) :=
  foldl_step_inv bnd_step ops _ (bnd_init a i)

theorem cb_append_ne {l : List (Nat × AggRec)} {cb : List AggRec} {k k' : Nat} (hne : k' ≠ k) :
    ∀ p ∈ l ++ cb.map (k', ·), p.1 = k → p ∈ l := by
  intro p hp hk
  refine (List.mem_append.mp hp).resolve_right fun hm => hne ?_
  obtain ⟨_, _, rfl⟩ := List.mem_map.mp hm
  exact hk

/-- The loop of ForAllExpiredFlowRecordsDo seen from one flow key `k`, relative to the loop's arguments.
    `frame`: a flow without an item in the queue is never popped, so its record stays and the callback does not
    see it. `retry`: a flow still waiting for its other node whose item is due is, unless a failing callback
    aborts the loop, not handed to the callback; it is deleted when its counter had reached MaxRetries, else the
    counter goes up by one and its item is set aside (`tp`, pushed after the loop) with both deadlines from now. -/
structure KeySpec (k : Nat) (s : State) (tp : List Item) (o : ScanOut) (r : State × List Item × ScanOut) : Prop where
  kept : ∀ x ∈ tp, x ∈ r.2.1
  frame : (∀ x ∈ s.pq.toList, x.key ≠ k) →
    r.1.find k = s.find k ∧ ∀ p ∈ r.2.2.callbacks, p.1 = k → p ∈ o.callbacks
  retry : ∀ a itk, s.find k = some a → a.ready = false → itk ∈ s.pq.toList → itk.key = k → Due s.now itk →
    r.2.2.failed = false →
    (∀ p ∈ r.2.2.callbacks, p.1 = k → p ∈ o.callbacks) ∧
    (Generated.cMaxRetries ≤ a.retries → r.1.find k = none) ∧
    (a.retries < Generated.cMaxRetries → r.1.find k = some { a with retries := a.retries + 1 } ∧
      { key := k, active := s.now + s.activeT, inactive := s.now + s.inactiveT } ∈ r.2.1)

section
variable {fail : Nat → Bool} {ra : Bool} {s s' : State} {it : Item} {tp tp' : List Item} {o o' : ScanOut}
  {r : State × List Item × ScanOut} {k : Nat}

/-- a turn that pops the item of another flow passes the specification of `k` on -/
theorem KeySpec.other {pq' : Array Item} (h : KeySpec k s' tp' o' r)
    (hpop : Heap.pop Item.deadline s.pq = some (it, pq')) (hkey : it.key ≠ k)
    (t : Turn fail ra { s with pq := pq' } it tp o s' tp' o') : KeySpec k s tp o r := by
  have hperm := Heap.pop_perm Item.deadline hpop
  rw [← show s'.pq = pq' from t.pq] at hperm
  have hsub : ∀ x ∈ s'.pq.toList, x ∈ s.pq.toList := fun x hx => hperm.mem_iff.mpr (List.mem_cons_of_mem _ hx)
  have hkeep : ∀ x ∈ s.pq.toList, x.key = k → x ∈ s'.pq.toList := fun x hx hk =>
    (List.mem_cons.mp (hperm.mem_iff.mp hx)).resolve_left fun e => hkey (e ▸ hk)
  have hf : s'.find k = s.find k := t.find_ne (Ne.symm hkey)
  have hnow : s'.now = s.now := t.now
  obtain ⟨cb, ho, -⟩ := t.callbacks
  have hcb : ∀ p ∈ o'.callbacks, p.1 = k → p ∈ o.callbacks := ho ▸ cb_append_ne hkey
  refine ⟨fun x hx => h.kept x (t.subset x hx), fun hno => ?_, fun a itk hfa hnr hit hk hd hok => ?_⟩
  · have ⟨h1, h2⟩ := h.frame fun x hx => hno x (hsub x hx)
    exact ⟨h1.trans hf, fun p hp hk => hcb p (h2 p hp hk) hk⟩
  · have ⟨h1, h2, h3⟩ := h.retry a itk (hf.trans hfa) hnr (hkeep itk hit hk) hk (hnow ▸ hd) hok
    rw [hnow, t.timeouts.1, t.timeouts.2] at h3
    exact ⟨fun p hp hk => hcb p (h1 p hp hk) hk, h2, h3⟩

theorem KeySpec.stop (hq : ∀ it ∈ s.pq.toList, Fut s.now it) : KeySpec k s tp o (s, tp, o) where
  kept := fun _ hx => hx
  frame := fun _ => ⟨rfl, fun _ hp _ => hp⟩
  retry := fun _ itk _ _ hit _ hd _ => absurd (hq itk hit) ((due_iff_not_fut _ _).mp hd)

theorem Run.key (h : Run fail ra s tp o r) (k : Nat) (hinv : LoopInv s tp) : KeySpec k s tp o r := by
  induction h with
  | stop hs => exact .stop (hinv.all_fut hs)
  | abort it hpop hdue =>
    obtain ⟨-, hmem, -⟩ := hinv.pop_due hpop hdue
    exact ⟨fun _ hx => List.mem_append_left _ hx, fun hno => ⟨rfl, cb_append_ne (cb := [_]) (hno it hmem)⟩,
      fun _ _ _ _ _ _ _ hok => nomatch hok⟩
  | turn it hpop hdue t _ ih =>
    obtain ⟨hP, hmem, -⟩ := hinv.pop_due hpop hdue
    have ih := ih (hP.turn t)
    by_cases hkey : it.key = k
    · -- `k`'s own item is popped: nothing of `k` is left in the queue (`Popped.others_ne`), so `frame` of the rest of
      -- the loop says what becomes of `k`
      subst hkey
      have ⟨h1, h2⟩ := ih.frame (t.pq ▸ hP.others_ne)
      refine ⟨fun x hx => ih.kept x (t.subset x hx), fun hno => absurd rfl (hno it hmem),
        fun a itk hfa hnr _ _ _ _ => ?_⟩
      cases t with
      | orphan hfind => cases hfind.symm.trans hfa
      | drop hfind _ hret =>
        obtain rfl := Option.some.inj (hfind.symm.trans hfa)
        exact ⟨h2, fun _ => h1.trans (find_del_self _ _), fun hlt => absurd hlt (Nat.not_lt.mpr hret)⟩
      | retry hfind _ hret =>
        obtain rfl := Option.some.inj (hfind.symm.trans hfa)
        exact ⟨h2, fun hge => absurd hret (Nat.not_lt.mpr hge), fun _ => ⟨h1.trans (find_set_self _ _ _),
          ih.kept _ (List.mem_append_right _ (List.mem_singleton.mpr rfl))⟩⟩
      | expire hfind hr | rearm hfind hr =>
        obtain rfl := Option.some.inj (hfind.symm.trans hfa)
        cases hr.symm.trans hnr
    · exact ih.other hpop hkey t

end

/-- Flow `k` waits for its other node in `s`: it is held, with record `a`, and not ready, and `it` is its item in the
    queue of a state that meets the scheduling invariant. -/
structure Waits (k : Nat) (a : AggRec) (it : Item) (s : State) : Prop where
  sched : Sched s
  held : s.find k = some a
  unready : a.ready = false
  queued : it ∈ s.pq.toList
  key : it.key = k

/-- What `KeySpec.retry` gives for a whole scan that finds the item of a waiting flow due and is not aborted by a failing
    callback: the flow is not handed to the callback; it is dropped exactly when its counter had reached MaxRetries,
    and otherwise waits on, the counter one higher, its item re-armed from the scan time. -/
theorem Waits.scan {k : Nat} {a : AggRec} {it : Item} {s : State} (w : Waits k a it s) (fail : Nat → Bool) (ra : Bool)
    (hd : Due s.now it) (hok : (scan s fail ra).2.failed = false) :
    (∀ p ∈ (scan s fail ra).2.callbacks, p.1 ≠ k) ∧
    ((scan s fail ra).1.find k = none ↔ Generated.cMaxRetries ≤ a.retries) ∧
    (a.retries < Generated.cMaxRetries → Waits k { a with retries := a.retries + 1 }
      { key := k, active := s.now + s.activeT, inactive := s.now + s.inactiveT } (scan s fail ra).1) := by
  have hS := sched_scan s fail ra w.sched
  obtain ⟨r, hr, e⟩ := scan_eq s fail ra
  rw [e] at hok hS ⊢
  obtain ⟨h1, h2, h3⟩ := (hr.key k (loopInv_nil.mpr w.sched)).retry a it w.held w.unready w.queued w.key hd hok
  refine ⟨fun p hp e => absurd (h1 p hp e) List.not_mem_nil,
    ⟨fun hn => Nat.le_of_not_lt fun hlt => Option.some_ne_none _ ((h3 hlt).1.symm.trans hn), h2⟩,
    fun hlt => ⟨hS, (h3 hlt).1, w.unready, ?_, rfl⟩⟩
  exact (foldl_push_perm _ _).mem_iff.mpr (List.mem_append_right _ (h3 hlt).2)

/-- arrivals for other flows and a clock advance leave `k`'s record, `k`'s queue item and the timeouts alone
    (the state they lead to is named, so that a caller's goal need not carry the fold) -/
theorem arrivals_other (recs : List InRec) (d : Nat) (s : State) (h : Sched s) (k : Nat) (it : Item)
    (hno : ∀ x ∈ recs, x.key ≠ k) (hit : it ∈ s.pq.toList) (hk : it.key = k) (s1 : State)
    (hs1 : s1 = { recs.foldl ingest s with now := (recs.foldl ingest s).now + d }) :
    Sched s1 ∧ s1.find k = s.find k ∧ it ∈ s1.pq.toList ∧ s1.now = s.now + d ∧
    s1.activeT = s.activeT ∧ s1.inactiveT = s.inactiveT := by
  subst hs1
  induction recs generalizing s with
  | nil => exact ⟨h, rfl, hit, rfl, rfl, rfl⟩
  | cons x t ih =>
    have hx : x.key ≠ k := hno x List.mem_cons_self
    obtain ⟨g1, g2, g3, g4, g5, g6⟩ := ih (ingest s x) (sched_ingest s x h)
      (fun y hy => hno y (List.mem_cons_of_mem _ hy))
      (ingest_other_items s x it hit (by rw [hk]; exact Ne.symm hx))
    exact ⟨g1, g2.trans (ingest_find_ne s x k hx), g3,
      g4.trans (congrArg (· + d) (ingest_now s x)), g5.trans (ingest_timeouts s x).1, g6.trans (ingest_timeouts s x).2⟩

end Ipfix.Agg

namespace Ipfix.C07
open Agg

/-- one round of the history after `k`'s last record: records (of other flows) arrive, the clock
    advances by `d`, then the expiry scan runs (its callback failing on the keys in `fail`) -/
structure Round where
  recs : List InRec
  d : Nat
  fail : List Nat
  resetAfter : Bool

/-- the round as operations of the histories of C06 -/
def Round.ops (r : Round) : List Op := r.recs.map Op.record ++ [Op.adv r.d, Op.scan r.fail r.resetAfter]
/-- the state in which the round's scan runs -/
def Round.pre (r : Round) (s : State) : State := { r.recs.foldl ingest s with now := (r.recs.foldl ingest s).now + r.d }
/-- the state after the round -/
def Round.post (r : Round) (s : State) : State := (scan (r.pre s) (fun k => r.fail.contains k) r.resetAfter).1
/-- what the round's scan handed to the callback -/
def Round.out (r : Round) (s : State) : ScanOut := (scan (r.pre s) (fun k => r.fail.contains k) r.resetAfter).2

/-- the state after the rounds, and the outputs of their scans -/
def runRounds : State → List Round → State × List ScanOut
  | s, [] => (s, [])
  | s, r :: rs => ((runRounds (r.post s) rs).1, r.out s :: (runRounds (r.post s) rs).2)

end Ipfix.C07

namespace Ipfix.Agg
open C07

/-- `Waits.scan` for the scan of a round in which no record of `k` arrives. The re-armed item is due again once the
    clock has advanced by one of the two timeouts: `Due ((r.post s).now + d)` of it reads
    `(r.post s).now + s.activeT ≤ (r.post s).now + d ∨ ...`. -/
theorem Waits.round {k : Nat} {a : AggRec} {it : Item} {s : State} (w : Waits k a it s) (r : Round)
    (hno : ∀ x ∈ r.recs, x.key ≠ k) (hd : Due (s.now + r.d) it) (hok : (r.out s).failed = false) :
    (∀ p ∈ (r.out s).callbacks, p.1 ≠ k) ∧
    ((r.post s).find k = none ↔ Generated.cMaxRetries ≤ a.retries) ∧
    (a.retries < Generated.cMaxRetries → Waits k { a with retries := a.retries + 1 }
      { key := k, active := (r.post s).now + s.activeT, inactive := (r.post s).now + s.inactiveT } (r.post s)) := by
  obtain ⟨g1, g2, g3, g4, g5, g6⟩ := arrivals_other r.recs r.d s w.sched k it hno w.queued w.key (r.pre s) rfl
  have w' : Waits k a it (r.pre s) := ⟨g1, g2.trans w.held, w.unready, g3, w.key⟩
  -- put in terms of `r.pre s`, the state in which the scan runs, the statement is `Waits.scan`
  rw [← g4] at hd
  rw [← g5, ← g6, Round.post, scan_now]
  exact w'.scan _ _ hd hok

end Ipfix.Agg
