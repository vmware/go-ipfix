/-
  The lock discipline of ExportingProcess (C14 `lockset_exporter`), computed from the regenerated table
  Generated/LocksExporter.lean: which units each goroutine can reach through the call edges, which fields both sides
  access, and whether every such access is guarded by one mechanism. `discipline` evaluates the verdict over all
  fields once; the statements of Props/C14.lean are read off it.
-/
import IpfixModel.Generated.LocksExporter
namespace Ipfix.Life
namespace Locks
open Generated.LocksExporter

def callees (u : String) : List String := (calls.filter (·.1 == u)).map (·.2)

/-- units reachable from `acc` through the call edges (fuel = number of units) -/
def reach : Nat → List String → List String
  | 0, acc => acc
  | n+1, acc => reach n (acc ++ ((acc.flatMap callees).filter (fun u => !acc.contains u)).eraseDups)

def reachable (root : String) : List String := reach units.length [root]

/-- the background goroutines: the `go` statements of InitExportingProcess -/
def bgUnits : List String := (goroutines.map (·.1)).flatMap reachable

/-- the application goroutine: the exported methods, and the part of InitExportingProcess that runs after
    the first `go` statement -/
def appUnits : List String := (exported ++ postStartUnits).flatMap reachable

def guarded (a : Access) : Bool := a.how == "mutex" || a.how == "atomic" || a.how == "atomicMethod" || a.how == "sync"

def fieldAccesses (f : String) (us : List String) : List Access :=
  accesses.filter (fun a => a.field == f && us.contains a.unit)

/-- accessed by the application goroutine AND by a background goroutine, and written by one of them -/
def sharedWritten (f : String) : Bool :=
  !(fieldAccesses f appUnits).isEmpty && !(fieldAccesses f bgUnits).isEmpty &&
  (fieldAccesses f (appUnits ++ bgUnits)).any (·.write)

/-- every access is guarded, and by one mechanism: the same mutex throughout, or atomics / sync types throughout -/
def consistent (f : String) : Bool :=
  let all := fieldAccesses f (appUnits ++ bgUnits)
  all.all guarded &&
  (match all.filter (·.how == "mutex") with
   | [] => true
   | m :: _ => all.all (fun a => a.how == "mutex" && a.lock == m.lock))

def fieldOK (f : String) : Bool := !sharedWritten f || consistent f

/-- the state the property is about -/
def trackedFields : List String := ["seqNumber", "templatesMap", "templateID", "connToCollector", "isClosed", "stopCh"]

/-- One evaluation for both filters: they run over the same reachability sets and the same accesses, and a string
    comparison is what the kernel pays for here. -/
theorem discipline :
    (fields.map (·.1)).filter sharedWritten = ["seqNumber", "templatesMap", "jsonBufferLen", "isClosed"] ∧
    (fields.map (·.1)).filter (fun f => !fieldOK f) = ["jsonBufferLen"] := by decide +kernel

theorem sharedWritten_of_mem {f : String} (h : f ∈ ["seqNumber", "templatesMap", "jsonBufferLen", "isClosed"]) :
    sharedWritten f = true := by
  rw [← discipline.1] at h
  exact (List.mem_filter.mp h).2

theorem fieldOK_of_ne {f : String} (hf : f ∈ fields.map (·.1)) (hne : f ≠ "jsonBufferLen") : fieldOK f = true := by
  cases h : fieldOK f with
  | true => rfl
  | false =>
    have hmem : f ∈ (fields.map (·.1)).filter (fun f => !fieldOK f) := List.mem_filter.mpr ⟨hf, by rw [h]; rfl⟩
    rw [discipline.2] at hmem
    exact absurd (List.mem_singleton.mp hmem) hne

end Locks

end Ipfix.Life
