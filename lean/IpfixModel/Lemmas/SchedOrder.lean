/-
  "Earliest deadline first" for a whole expiry scan: the flows handed to the callback during one
  ForAllExpiredFlowRecordsDo are handed over in non-decreasing order of the deadline they were
  queued with. The heap loses items during the loop and gains none (re-queued items wait in the
  deferred list), so every pop returns the least of what is left: this is the `cbs` clause of the
  loop specification in Lemmas/Sched.lean (`scan_callbacks` for a whole scan).
-/
import IpfixModel.Lemmas.Sched
namespace Ipfix.Agg

theorem scan_callbacks_ordered (s : State) (fail : Nat → Bool) (ra : Bool) (h : Sched s) :
    ∃ its : List Item, (scan s fail ra).2.callbacks.map (·.1) = its.map (·.key) ∧
      (∀ it ∈ its, it ∈ s.pq.toList) ∧ its.Pairwise (fun a b => a.deadline ≤ b.deadline) := by
  obtain ⟨l, rest, h1, h2, _, h4⟩ := scan_callbacks s fail ra h
  refine ⟨l.map (·.1), ?_, fun it hit => h2.mem_iff.mpr (List.mem_append_left _ hit), List.pairwise_map.mpr h4⟩
  rw [h1]
  simp [cbOf, Function.comp_def]

end Ipfix.Agg
