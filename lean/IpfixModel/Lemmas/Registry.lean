/-
  The regenerated registry is a table in strict (enterprise, id) order, so no row shadows another.
-/
import IpfixModel.Model.Registry
import IpfixModel.Lemmas.Distinct
namespace Ipfix

def IE.keyLt (a b : IE) : Bool := a.ent < b.ent || (a.ent == b.ent && a.id < b.id)

/-- tools/gofacts emits the table strictly sorted by (enterprise, id): one pass over the table, not a comparison of all pairs -/
theorem registry_ascending : ascending IE.keyLt registry = true := by decide +kernel

/-- `lookupIE` tests `ie'.ent == ent && ie'.id == id`, which is what `==` on the pair `(ent, id)` unfolds to: that is
    why `pw_find` with the pair as key applies as it stands -/
theorem registry_lookup_self : ∀ ie ∈ registry, lookupIE ie.ent ie.id = some ie := by
  have htrans : ∀ a b c : IE, a.keyLt b = true → b.keyLt c = true → a.keyLt c = true := by
    simp only [IE.keyLt, Bool.or_eq_true, Bool.and_eq_true, decide_eq_true_eq, beq_iff_eq]; omega
  have hne : ∀ a b : IE, a.keyLt b = true → (a.ent, a.id) ≠ (b.ent, b.id) := by
    simp only [IE.keyLt, Bool.or_eq_true, Bool.and_eq_true, decide_eq_true_eq, beq_iff_eq, ne_eq, Prod.mk.injEq]; omega
  exact fun ie => pw_find (fun ie : IE => (ie.ent, ie.id)) ((ascending_pairwise htrans registry_ascending).imp (hne _ _))

/-- two rows for the worked examples: one near the start of the table, one near its end -/
theorem lookupIE_protocolIdentifier : lookupIE 0 4 = some ⟨"protocolIdentifier", 4, .unsigned8, 0, 1⟩ := by
  decide +kernel

theorem lookupIE_sourcePodName : lookupIE 56506 101 = some ⟨"sourcePodName", 101, .string, 56506, 65535⟩ := by
  decide +kernel

end Ipfix
