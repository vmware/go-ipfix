/-
  Facts about the sequential aggregation model (Model/Agg.lean) that the linearizability property C13 needs once a
  concurrent run has been reduced to SOME sequential order. Ingesting a record touches only its own key, so the per-key
  state after any sequence of ingests is a function of the per-key subsequence (`ingests_per_key`): records for other
  keys can neither lose nor double-count a delta, and any two serialisations with the same per-key order give the same
  per-key state. For a flow that needs no correlation, every record that is newer than the flow's last one adds its
  delta counters to the per-node delta fields modulo 2^64, exactly once (`delta_sum`); a reset puts them back to zero.
-/
import IpfixModel.Lemmas.AggMap
namespace Ipfix.AggLin
open Agg

theorem keys_independent (s : State) (r : InRec) (k : Nat) (h : r.key ≠ k) : (ingest s r).find k = s.find k :=
  ingest_find_ne s r k h

/-- the flow record after the arrivals `rs`, all for one key, from the record `o` (`none`: no flow yet) -/
def perKey (o : Option AggRec) (rs : List InRec) : Option AggRec := rs.foldl (fun o r => some (heldAfter o r)) o

theorem ingests_per_key (rs : List InRec) (s : State) (k : Nat) :
    (rs.foldl ingest s).find k = perKey (s.find k) (rs.filter (·.key == k)) := by
  induction rs generalizing s with
  | nil => rfl
  | cons r rs ih =>
    rw [List.foldl_cons, ih, List.filter_cons, ingest_find]
    by_cases e : r.key = k
    · rw [if_pos (beq_iff_eq.mpr e), ← e, if_pos rfl]
      rfl
    · rw [if_neg (mt beq_iff_eq.mp e), if_neg (Ne.symm e)]

theorem perKey_some (rs : List InRec) (a : AggRec) :
    perKey (some a) rs = some (rs.foldl (fun a r => update r a) a) :=
  List.foldl_hom some fun _ _ => rfl

def sumDelta (i : Nat) (rs : List InRec) : Nat := (rs.map (·.stats.getD i 0)).sum

/-- end times strictly increasing, starting above `e` -/
def Increasing : Nat → List InRec → Prop
  | _, [] => True
  | e, r :: l => e < r.end_ ∧ Increasing r.end_ l

theorem update_newer (r : InRec) (a : AggRec) (hnc : corrRequired r.flowType r.corr = false)
    (h0 : a.endDst ≠ 0) (hnew : a.endDst < r.end_) :
    (update r a).dstStats = updNode a.dstStats r.stats ∧ (update r a).srcStats = updNode a.srcStats r.stats ∧
      (update r a).endDst = r.end_ ∧ (update r a).endSrc = r.end_ := by
  have e : update r a = aggregate r a true true := by
    rw [update_eq, correlated_of_not_required a hnc, hnc]
    rfl
  -- the previous record of the destination node is the one that set `endDst`
  have hprev : prevEnd r a true true = a.endDst := if_neg (by simpa using h0)
  rw [e, aggregate, aggNums_late r a true true (hprev ▸ hnew)]
  exact ⟨rfl, rfl, rfl, rfl⟩

theorem update_delta (r : InRec) (a : AggRec) (i : Nat) (hnc : corrRequired r.flowType r.corr = false)
    (h0 : a.endDst ≠ 0) (hnew : a.endDst < r.end_) (hd : isDelta i = true) (hi : i < r.stats.length) :
    (update r a).dstStats.getD i 0 = (a.dstStats.getD i 0 + r.stats.getD i 0) % u64 ∧
    (update r a).srcStats.getD i 0 = (a.srcStats.getD i 0 + r.stats.getD i 0) % u64 := by
  obtain ⟨h1, h2, _, _⟩ := update_newer r a hnc h0 hnew
  rw [h1, h2, updNode_delta _ _ i hd hi, updNode_delta _ _ i hd hi, Nat.add_comm, Nat.add_comm (r.stats.getD i 0)]
  exact ⟨rfl, rfl⟩

theorem sumDelta_cons (i : Nat) (r : InRec) (rs : List InRec) :
    sumDelta i (r :: rs) = r.stats.getD i 0 + sumDelta i rs := rfl

/-- no delta lost, none counted twice: after a run of records with increasing end times, the
    per-node delta field is the old value plus the sum of the records' deltas (mod 2^64) -/
theorem delta_sum (rs : List InRec) (a : AggRec) (i : Nat) (hd : isDelta i = true)
    (hlen : ∀ r ∈ rs, i < r.stats.length) (hnc : ∀ r ∈ rs, corrRequired r.flowType r.corr = false)
    (h0 : a.endDst ≠ 0) (hinc : Increasing a.endDst rs)
    (hb : a.dstStats.getD i 0 < u64 ∧ a.srcStats.getD i 0 < u64) :
    (rs.foldl (fun a r => update r a) a).dstStats.getD i 0 = (a.dstStats.getD i 0 + sumDelta i rs) % u64 ∧
    (rs.foldl (fun a r => update r a) a).srcStats.getD i 0 = (a.srcStats.getD i 0 + sumDelta i rs) % u64 := by
  induction rs generalizing a with
  | nil => exact ⟨(Nat.mod_eq_of_lt hb.1).symm, (Nat.mod_eq_of_lt hb.2).symm⟩
  | cons r rs ih =>
    obtain ⟨hnew, hinc'⟩ := hinc
    have hr_nc := hnc r List.mem_cons_self
    obtain ⟨-, -, e3, -⟩ := update_newer r a hr_nc h0 hnew
    obtain ⟨d1, d2⟩ := update_delta r a i hr_nc h0 hnew hd (hlen r List.mem_cons_self)
    have hu : 0 < u64 := by decide
    have := ih (update r a) (fun x hx => hlen x (List.mem_cons_of_mem _ hx))
      (fun x hx => hnc x (List.mem_cons_of_mem _ hx)) (by rw [e3]; omega)
      (by rw [e3]; exact hinc') (by rw [d1, d2]; exact ⟨Nat.mod_lt _ hu, Nat.mod_lt _ hu⟩)
    rw [List.foldl_cons, this.1, this.2, d1, d2, sumDelta_cons, Nat.mod_add_mod, Nat.mod_add_mod,
      Nat.add_assoc, Nat.add_assoc]
    exact ⟨rfl, rfl⟩

/-- ResetStatAndThroughputElementsInRecord puts every delta field back to zero and keeps the end times -/
theorem reset_delta (a : AggRec) (i : Nat) (hd : isDelta i = true) :
    (resetStats a).dstStats.getD i 0 = 0 ∧ (resetStats a).srcStats.getD i 0 = 0 ∧
      (resetStats a).endDst = a.endDst ∧ (resetStats a).endSrc = a.endSrc :=
  have h (l : List Nat) : (clr l).getD i 0 = 0 := (clr_getD l i).trans (if_pos hd)
  ⟨h _, h _, rfl, rfl⟩

end Ipfix.AggLin
