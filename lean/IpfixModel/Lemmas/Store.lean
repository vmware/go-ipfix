/-
  Lemmas for C20 (Model/Store.lean, Spec/C20.lean). The store is the last `cap` of the arrivals since the last reset
  (`takeLast cap`): an invariant of every operation (`step_window`), and the Spec's tracker holds the same arrivals
  (`next_arrivals`), so that a query is answered with what the tracker expects (`query_expected`).
  Two facts about the substring test, `infixB_of_suffix` and `dropThrough_spec`, are in Spec/C20.lean, beside the
  `@[csimp]` equation whose proof needs them there.
-/
import IpfixModel.Spec.C20
namespace Ipfix
open Ipfix.Store

theorem takeLast_length {α : Type} (n : Nat) (l : List α) : (takeLast n l).length = min n l.length := by
  rw [takeLast, List.length_drop, Nat.sub_sub_eq_min, Nat.min_comm]

theorem takeLast_length_le {α : Type} (n : Nat) (l : List α) : (takeLast n l).length ≤ n := by
  rw [takeLast_length]
  exact Nat.min_le_left _ _

theorem takeLast_of_length_le {α : Type} {n : Nat} {l : List α} (h : l.length ≤ n) : takeLast n l = l := by
  simp [takeLast, Nat.sub_eq_zero_of_le h]

@[simp] theorem takeLast_nil {α : Type} (n : Nat) : takeLast n ([] : List α) = [] := by simp [takeLast]

theorem takeLast_takeLast {α : Type} {m n : Nat} (l : List α) (h : m ≤ n) :
    takeLast m (takeLast n l) = takeLast m l := by
  rcases Nat.le_total n l.length with hn | hn
  · rw [takeLast, takeLast_length, Nat.min_eq_left hn, takeLast, List.drop_drop, Nat.sub_add_sub_cancel hn h,
      takeLast]
  · rw [takeLast_of_length_le hn]

/-- the case split is that of `Store.add` -/
theorem takeLast_snoc {α : Type} {n : Nat} (hn : 0 < n) (l : List α) (e : α) :
    takeLast n (l ++ [e]) =
      if (takeLast n l).length ≥ n then (takeLast n l).drop 1 ++ [e] else takeLast n l ++ [e] := by
  rcases Nat.lt_or_ge l.length n with h | h
  · rw [takeLast_of_length_le (Nat.le_of_lt h), if_neg (Nat.not_le_of_lt h), takeLast_of_length_le]
    rw [List.length_append]
    exact h
  · rw [takeLast_length, Nat.min_eq_left h, if_pos (Nat.le_refl n), takeLast, takeLast, List.drop_drop,
      List.length_append, List.length_singleton, Nat.sub_add_comm h, List.drop_append_of_le_length (by omega)]

namespace Store

theorem cap_pos : 0 < cap := by decide

theorem window_self {s : Store} (h : s.items.length ≤ cap) : s.items = takeLast cap s.items :=
  (takeLast_of_length_le h).symm

theorem add_window {s : Store} {acc : List String} (e : String) (h : s.items = takeLast cap acc) :
    (s.add e).items = takeLast cap (acc ++ [e]) := by
  rw [takeLast_snoc cap_pos, ← h]
  unfold add
  split <;> simp_all

theorem arrivals_cons (acc : List String) (op : Op) (ops : List Op) :
    arrivals acc (op :: ops) = arrivals (arrivals acc [op]) ops := by
  cases op <;> rfl

theorem step_window {s : Store} {acc : List String} (op : Op) (h : s.items = takeLast cap acc) :
    (s.step op).1.items = takeLast cap (arrivals acc [op]) := by
  cases op with
  | add m => exact add_window _ h
  | records method c f => exact h
  | reset method =>
    simp only [step, handleReset, arrivals]
    split
    · exact (takeLast_nil cap).symm
    · exact h

theorem query_eq (s : Store) (count : Option Nat) :
    s.query count = takeLast (match count with | none => s.items.length | some n => min n s.items.length) s.items := by
  cases count with
  | none => simp [query, takeLast]
  | some n =>
    simp only [query, takeLast]
    congr 2
    split <;> omega

theorem handleRecords_get (s : Store) {c f : Option String} {n : Option Nat} {fm : Fmt}
    (hc : countArg c = some n) (hf : formatArg f = some fm) :
    s.handleRecords "GET" c f = ⟨200, encode fm (s.query n)⟩ := by
  simp only [handleRecords, hc, hf, ne_eq, not_true_eq_false, if_false]

end Store

theorem String.join_cons' (x : String) (xs : List String) : String.join (x :: xs) = x ++ String.join xs :=
  String.join_cons

theorem String.join_append' (a b : List String) : String.join (a ++ b) = String.join a ++ String.join b :=
  String.join_append

theorem _root_.String.join_of_mem {x : String} {l : List String} (h : x ∈ l) :
    ∃ pre post, String.join l = pre ++ x ++ post := by
  obtain ⟨a, b, rfl⟩ := List.append_of_mem h
  exact ⟨String.join a, String.join b, by rw [String.join_append, String.join_cons, String.append_assoc]⟩

namespace C20

theorem infixB_prefix (p post : List Char) : infixB p (p ++ post) = true := by
  have h : p.isPrefixOf (p ++ post) = true := List.isPrefixOf_iff_prefix.mpr (List.prefix_append p post)
  cases hs : p ++ post with
  | nil =>
    rw [(List.append_eq_nil_iff.mp hs).1]
    rfl
  | cons c s =>
    rw [infixB, ← hs, h]
    rfl

theorem occursIn_of_eq {line entry : String} (h : ∃ pre post, entry = pre ++ line ++ post) :
    occursIn line entry = true := by
  obtain ⟨pre, post, rfl⟩ := h
  rw [occursIn, String.toList_append, String.toList_append, List.append_assoc]
  exact infixB_of_suffix _ _ _ (infixB_prefix _ _)

theorem mem_recLines {isT : Bool} {r : List (IE × Value)} {f : IE × Value} (hf : f ∈ r)
    {rs : List (List (IE × Value))} (hr : r ∈ rs) (i : Nat) : elemLine isT f ∈ recLines isT i rs := by
  induction rs generalizing i with
  | nil => cases hr
  | cons r' rs ih =>
    rw [recLines, List.mem_cons, List.mem_append]
    rcases List.mem_cons.mp hr with rfl | hr
    · exact .inr (.inl (List.mem_map_of_mem hf))
    · exact .inr (.inr (ih hr (i + 1)))

theorem mem_renderLines {m : Msg} {r : List (IE × Value)} {f : IE × Value} (hr : r ∈ m.records) (hf : f ∈ r) :
    elemLine m.isTemplate f ∈ renderLines m := by
  rw [renderLines, List.mem_append]
  exact .inr (mem_recLines hf hr 0)

theorem window_eq_takeLast (t : Tracker) : t.window = takeLast cap t.arrivals := by
  rw [Tracker.window, List.reverse_take, Tracker.arrivals, takeLast, List.length_reverse]

theorem next_arrivals (t : Tracker) (s : Store) (op : Op) :
    (next t op (s.step op).2).arrivals = arrivals t.arrivals [op] := by
  cases op with
  | add m => simp [next, step, Tracker.arrivals, arrivals]
  | records method c f => rfl
  | reset method =>
    simp only [next, arrivals]
    split <;> rfl

theorem query_expected {s : Store} {t : Tracker} (h : s.items = t.window) (n : Option Nat) :
    s.query n = t.expected n := by
  rw [query_eq, h]
  cases n with
  | none => exact takeLast_of_length_le (Nat.le_refl _)
  | some n => rfl

theorem verdict_records (t : Tracker) (method : String) (c f : Option String) (st : Nat) (body : String)
    (hrefuse : method ≠ "GET" ∨ countArg c = none ∨ formatArg f = none → is4xx st = true)
    (hvalid : ∀ n fm, method = "GET" → countArg c = some n → formatArg f = some fm →
      st = 200 ∧ body = encode fm (t.expected n)) :
    verdict t (.records method c f) (.resp st body) = none := by
  by_cases hm : method = "GET"
  · cases hc : countArg c with
    | none => simp [verdict, hm, hc, hrefuse (.inr (.inl hc))]
    | some n =>
      cases hf : formatArg f with
      | none => simp [verdict, hm, hc, hf, hrefuse (.inr (.inr hf))]
      | some fm =>
        obtain ⟨rfl, rfl⟩ := hvalid n fm hm hc hf
        simp [verdict, hm, hc, hf]
  · simp [verdict, hm, hrefuse (.inl hm)]

end C20
end Ipfix
