/-
  `Ipfix.TLS`: what acceptance by each decision function of Model/TLSDecision says about ARBITRARY certificates, names
  and times (the general theorems of Props/C18 are these at the configurations of the code), and what an outcome of
  `sessionWith` says about the handshake behind it, for ARBITRARY configurations and cells.
  `Ipfix.C18`: what the predicates of Spec/C18 demand of an ARBITRARY observation (`Holds`), and `holds_sessionWith`: the
  model meets that on any cell whenever the configurations accept only what the general theorems say. `model_satisfies_spec`
  of Props/C18 is that at the configurations of the code; the other matrix theorems there follow from it.
-/
import IpfixModel.Spec.C18

namespace Ipfix.TLS
variable {cfg : ClientCfg} {serverName : Option Name} {host : Name} {cert : PeerCert} {t : Nat}

theorem cryptoTLSVerifiesServer_iff (hs : cfg.skipVerify = false) :
    cryptoTLSVerifiesServer cfg serverName host cert t = true ↔
      (cfg.rootsSet = true ∧ cert.issuer = .trustedCA) ∧ (cert.notBefore ≤ t ∧ t ≤ cert.notAfter) ∧
      nameMatches (tlsExpectedName cfg serverName host) cert = true := by
  simp [cryptoTLSVerifiesServer, hs, chainsTo, withinValidity, and_assoc]

theorem pionOwnVerification_iff (hs : cfg.skipVerify = false) :
    pionOwnVerification cfg serverName cert t = true ↔
      (cfg.rootsSet = true ∧ cert.issuer = .trustedCA) ∧ (cert.notBefore ≤ t ∧ t ≤ cert.notAfter) ∧
      ∀ n, pionCheckedName cfg serverName = some n → nameMatches n cert = true := by
  unfold pionOwnVerification
  cases pionCheckedName cfg serverName <;> simp [hs, chainsTo, withinValidity, and_assoc]

theorem hookVerifiesName_iff {h : NameHook} :
    hookVerifiesName h serverName host cert = true ↔
      (h.installedFor serverName = true →
        match serverName with
        | some n => nameMatches n cert = true
        | none => h.hostFallback = true ∧ nameMatches host cert = true) := by
  unfold hookVerifiesName
  cases h.installedFor serverName <;> cases serverName <;> simp

theorem negotiate_eq_some {s : ServerCfg} {v : Version} (h : negotiate cfg s = some v) :
    v = min cfg.maxVersion s.maxVersion ∧ cfg.minVersion ≤ v ∧ s.minVersion ≤ v := by
  dsimp only [negotiate] at h
  split at h
  · next hle =>
    cases h
    simpa using hle
  · cases h

theorem serverAcceptsClient_requireAndVerify {srv : ServerCfg} {p : Option PeerCert} (h : srv.clientAuth = .requireAndVerify) :
    serverAcceptsClient srv p t = true ↔
      ∃ c, p = some c ∧ srv.clientCAsSet = true ∧ c.issuer = .trustedCA ∧ c.notBefore ≤ t ∧ t ≤ c.notAfter := by
  unfold serverAcceptsClient
  cases p <;> simp [h, verifiesClient, withinValidity, and_assoc]

theorem presented_eq_some {client : ClientCfg} {clientCert : Option PeerCert} {srv : ServerCfg} {c : PeerCert}
    (h : presented client clientCert srv = some c) : clientCert = some c := by
  unfold presented at h
  split at h
  · cases h
  · cases clientCert with
    | none => cases h
    | some c' =>
      dsimp only at h
      split at h
      · cases h
      · exact h

theorem sessionWith_withoutDTLSHook_tls (L : LibCfgs) {c : Cell} (ht : c.transport = .tls) :
    sessionWith L.withoutDTLSHook c = sessionWith L c := by
  simp only [sessionWith, clientSide, serverSide, LibCfgs.withoutDTLSHook, LibCfgs.exporterEncrypts,
    LibCfgs.collectorEncrypts, LibCfgs.tlsClient, LibCfgs.tlsServer, ht]

variable {L : LibCfgs} {c : Cell}

/-- a DTLS listener that asks for no client certificate: over DTLS the client's certificate and the client CA do not enter -/
theorem sessionWith_dtls (hL : L.dtlsServer.clientAuth = .noClientCert) (ht : c.transport = .dtls) (hv : c.valid = true) :
    sessionWith L c = sessionWith L { c with clientCert := .none, clientCA := false } := by
  obtain ⟨t, sc, sn, cc, ca, p⟩ := c
  subst ht
  have hr : p.isRawServer = false ∧ p.isRawClient = false := by simpa [Cell.valid] using hv
  simp only [sessionWith, clientSide, serverSide, hr.1, hr.2]
  -- who the two sides are: plaintext or the library's
  cases (p == .plainCli || p == .rawPlainCli) <;> cases L.exporterEncrypts .dtls <;> cases (p == .plainSrv) <;>
    cases L.collectorEncrypts .dtls <;> simp [presented, hL]

/-! ### Inversion of `sessionWith`: a session and a delivery come about only through a handshake.
  (`cases` on the tests of `sessionWith` one by one: `split` on its nested `match` / `if` costs ten times as much.) -/

/-- nothing is delivered in a session the client did not complete -/
theorem sessionWith_delivered_false : (sessionWith L c).initOk = false → (sessionWith L c).delivered = false := by
  unfold sessionWith
  cases clientSide L c with
  | none => cases serverSide L c <;> exact fun h => nomatch h   -- a plaintext Dial succeeds
  | some lc =>
    cases serverSide L c with
    | none => exact fun _ => rfl
    | some sv =>
      dsimp only
      cases negotiate lc.2 sv
      · exact fun _ => rfl
      dsimp only
      -- the one outcome with `delivered` has `initOk`
      cases sv.hasCert <;> cases verifiesServer _ _ _ _ _ _ <;> cases serverAcceptsClient _ _ _ <;>
        cases (lc.1 == Lib.cryptoTLS && _) <;> intro h <;> first | rfl | cases h

/-- nobody answers the ClientHello -/
theorem sessionWith_of_no_server {x : Lib × ClientCfg} (hc : clientSide L c = some x) (hs : serverSide L c = none) :
    sessionWith L c = .failed := by
  unfold sessionWith
  rw [hc, hs]

/-- a TLS / DTLS client completes its initialisation only with a server it shares a version with and whose
    certificate it verified; a raw peer reports that version -/
theorem sessionWith_initOk {lib : Lib} {cl : ClientCfg} (hc : clientSide L c = some (lib, cl))
    (hi : (sessionWith L c).initOk = true) :
    ∃ sv v, serverSide L c = some sv ∧ negotiate cl sv = some v ∧
      verifiesServer lib cl (serverNameOf c.serverName) dialHost (serverCertOf c.serverCert) now = true ∧
      ∀ w, (sessionWith L c).version = some w → v = w := by
  revert hi
  unfold sessionWith
  rw [hc]
  cases serverSide L c with
  | none => exact fun hi => nomatch hi
  | some sv =>
    dsimp only
    cases hn : negotiate cl sv with
    | none => exact fun hi => nomatch hi
    | some v =>
      dsimp only
      cases verifiesServer _ _ _ _ _ _
      · cases sv.hasCert <;> exact fun hi => nomatch hi
      · refine fun _ => ⟨sv, v, rfl, hn, rfl, fun w => ?_⟩
        -- every outcome has the negotiated version or none
        cases sv.hasCert <;> cases serverAcceptsClient _ _ _ <;> cases (lib == Lib.cryptoTLS && _) <;>
          simp [Outcome.failed]

/-- a TLS / DTLS server delivers only what a client sends that it accepted in a handshake -/
theorem sessionWith_delivered {sv : ServerCfg} (hs : serverSide L c = some sv) (hd : (sessionWith L c).delivered = true) :
    ∃ lib cl, clientSide L c = some (lib, cl) ∧
      serverAcceptsClient sv (presented cl (clientCertOf c.clientCert) sv) now = true := by
  revert hd
  unfold sessionWith
  rw [hs]
  cases clientSide L c with
  | none => exact fun hd => nomatch hd
  | some lc =>
    refine fun hd => ⟨lc.1, lc.2, rfl, ?_⟩
    revert hd
    dsimp only
    cases serverAcceptsClient _ _ _
    · -- no outcome without the server's acceptance has `delivered`
      cases negotiate lc.2 sv
      · exact fun hd => nomatch hd
      · dsimp only
        cases sv.hasCert <;> cases verifiesServer _ _ _ _ _ _ <;> cases (lc.1 == Lib.cryptoTLS && _) <;>
          exact fun hd => nomatch hd
    · exact fun _ => rfl

/-! ### Who the two sides of a cell are -/

/-- the exporter under test is the library's client for the transport -/
theorem clientSide_exporter (he : L.exporterEncrypts c.transport = true) (hu : c.exporterUnderTest = true) :
    clientSide L c = some (match c.transport with
      | .tls => (.cryptoTLS, L.tlsClient (c.clientCert != .none))
      | .dtls => (.pionDTLS, L.dtlsClient)) := by
  obtain ⟨t, sc, sn, cc, ca, p⟩ := c
  unfold clientSide
  rw [he]
  -- the peers whose exporter is not the library's go by `hu`
  cases p <;> cases t <;> first | rfl | cases hu

/-- the collector under test is the library's server for the transport -/
theorem serverSide_collector (he : L.collectorEncrypts c.transport = true) (hu : c.collectorUnderTest = true) :
    serverSide L c = some (match c.transport with
      | .tls => L.tlsServer c.clientCA
      | .dtls => L.dtlsServer) := by
  obtain ⟨t, sc, sn, cc, ca, p⟩ := c
  unfold serverSide
  rw [he]
  cases p <;> cases t <;> first | rfl | cases hu

theorem serverSide_plainSrv (hp : c.peer = .plainSrv) : serverSide L c = none := by
  simp [serverSide, hp, Peer.isRawServer]

/-- the recognised case of `dtlsHookOf`: ONE hook, assigned ONCE, in `InitExportingProcess` to `config.VerifyPeerCertificate`,
    both texts being `nameCheckBody`. What is left to test is where the hook sits and what its variables hold. -/
theorem dtlsHookOf_nameCheck {h : Generated.TLS.Hook} {a : String × String × String × String} {l : Generated.TLS.ConfigLit}
    (hf : h.func = "InitExportingProcess") (hl : h.lhs = "config.VerifyPeerCertificate") (hb : h.body = nameCheckBody)
    (ha : a.2 = ("InitExportingProcess", "config.VerifyPeerCertificate", nameCheckBody)) :
    dtlsHookOf [h] [a] l =
      if l.conds.all h.conds.contains &&
          (h.defs.filter (·.lhs == "config")).map (fun d => "&dtls.Config{".toList.isPrefixOf d.rhs.toList) == [true] &&
          (h.defs.filter (·.lhs == "tlsConfig")).map (·.rhs) == ["input.TLSClientConfig"] then
        match expectedNameOf h.defs with
        | none => noHook
        | some fb =>
          let extra := (h.conds.filter fun c => !l.conds.contains c).map condHolds
          { onUnset := extra.all (·.1), onIP := extra.all (·.2.1), onDNS := extra.all (·.2.2), hostFallback := fb }
      else noHook := by
  unfold dtlsHookOf
  -- both filters keep their one element, and the two tests of the text compare `nameCheckBody` with itself
  simp only [List.filter_cons, List.filter_nil, ha, hf, hl, hb, beq_self_eq_true, Bool.and_self, if_true, List.map_cons,
    List.map_nil, Bool.true_and]
  rfl

theorem libCfgs_tlsClient (hasCert : Bool) : libCfgs.tlsClient hasCert = libTLSClient hasCert := by
  -- not `rfl`: the unifier would evaluate `libTLSClient`, i.e. read the configuration off the source text
  cases hasCert <;> simp only [LibCfgs.tlsClient, libCfgs, Bool.false_eq_true, if_false, if_true]

theorem libCfgs_dtlsClient : libCfgs.dtlsClient = libDTLSClient := by
  simp only [libCfgs]

theorem libCfgs_tlsServer (caGiven : Bool) : libCfgs.tlsServer caGiven = libTLSServer caGiven := by
  cases caGiven <;> simp only [LibCfgs.tlsServer, libCfgs, Bool.false_eq_true, if_false, if_true]

end Ipfix.TLS

namespace Ipfix.C18
open Ipfix.TLS

theorem sessionDefect_eq_none_iff {c : Cell} {o : Obs} :
    sessionDefect c o = none ↔ sessionAllowed c = true ∧ ∀ w, o.version = some w → 12 ≤ w := by
  unfold sessionDefect sessionAllowed
  -- a demand that is not met is the defect
  cases serverEncrypted c
  · simp
  cases serverChains c
  · simp
  cases serverInValidity c
  · simp
  cases serverNameOK c
  · simp
  cases peerVersionOK c
  · simp
  cases o.version <;> simp

theorem deliveryDefect_eq_none_iff {c : Cell} : deliveryDefect c = none ↔ deliveryAllowed c = true := by
  unfold deliveryDefect deliveryAllowed
  cases clientEncrypted c <;> cases (c.transport == .tls && c.clientCA) <;> cases clientAuthentic c <;> simp

theorem serverChains_iff {c : Cell} : serverChains c = true ↔ (serverCertOf c.serverCert).issuer = .trustedCA := by
  simp [serverChains]

theorem serverInValidity_iff {c : Cell} :
    serverInValidity c = true ↔ (serverCertOf c.serverCert).notBefore ≤ now ∧ now ≤ (serverCertOf c.serverCert).notAfter := by
  simp [serverInValidity, withinValidity]

theorem clientAuthentic_iff {c : Cell} :
    clientAuthentic c = true ↔
      ∃ cc, clientCertOf c.clientCert = some cc ∧ cc.issuer = .trustedCA ∧ cc.notBefore ≤ now ∧ now ≤ cc.notAfter := by
  unfold clientAuthentic
  cases clientCertOf c.clientCert <;> simp [withinValidity]

theorem formerD11_eq_true_iff {c : Cell} :
    formerD11 c = true ↔
      c.transport = .dtls ∧ c.peer = .real ∧ (c.serverName = .unset ∨ c.serverName = .ip ∨ c.serverName = .badIp) ∧
      serverChains c = true ∧ serverInValidity c = true ∧ serverNameOK c = false := by
  simp [formerD11, and_assoc, or_assoc]

/-- `ca1` is the issuer of the collector's certificate -/
theorem serverChains_cell (r : Resume) (e : ExporterTrust) : serverChains (r.cell e) = (e.ca == .ca1) := by
  obtain ⟨ca, sn⟩ := e
  cases ca <;> rfl

/-- what `holdsOn c o = .holds` says of a cell of the matrix, test by test (`holdsOn_eq_holds_iff`); none of it asks
    whether the cell is one of the matrix -/
structure Holds (c : Cell) (o : Obs) : Prop where
  wellFormed : o.initOk = false → o.delivered = false
  session : c.exporterUnderTest = true → o.initOk = true → sessionAllowed c = true ∧ ∀ w, o.version = some w → 12 ≤ w
  plaintext : c.peer = .plainSrv → o.delivered = false
  delivery : c.collectorUnderTest = true → o.delivered = true → deliveryAllowed c = true

theorem holdsOn_eq_holds_iff {c : Cell} {o : Obs} : holdsOn c o = .holds ↔ c.valid = true ∧ Holds c o := by
  -- `holdsOn` makes its five tests one after the other; each returns another verdict unless it passes
  have tests : holdsOn c o = .holds ↔ c.valid = true ∧ (!o.initOk && o.delivered) = false ∧
      (if c.exporterUnderTest && o.initOk then sessionDefect c o else none) = none ∧
      (c.peer == .plainSrv && o.delivered) = false ∧
      (if c.collectorUnderTest && o.delivered then deliveryDefect c else none) = none := by
    unfold holdsOn
    cases c.valid <;> cases (!o.initOk && o.delivered) <;>
      cases (if c.exporterUnderTest && o.initOk then sessionDefect c o else none) <;>
      cases (c.peer == .plainSrv && o.delivered) <;>
      cases (if c.collectorUnderTest && o.delivered then deliveryDefect c else none) <;> simp
  -- the same as implications, which is what the fields of `Holds` are
  have fields : Holds c o ↔ _ ∧ _ ∧ _ ∧ _ := ⟨fun ⟨h1, h2, h3, h4⟩ => ⟨h1, h2, h3, h4⟩, fun ⟨h1, h2, h3, h4⟩ => ⟨h1, h2, h3, h4⟩⟩
  rw [tests, fields, ← sessionDefect_eq_none_iff, ← deliveryDefect_eq_none_iff]
  simp

theorem holdsOnResume_holds_iff {r : Resume} {a b : Obs} :
    holdsOnResume r a b = .holds ↔
      r.valid = true ∧ (a.initOk = false → a.delivered = false) ∧ (b.initOk = false → b.delivered = false) ∧
      (a.initOk = true → sessionDefect (r.cell r.first) a = none) ∧
      (b.initOk = true → sessionDefect (r.cell r.second) b = none) := by
  have tests : holdsOnResume r a b = .holds ↔
      r.valid = true ∧ (!a.initOk && a.delivered) = false ∧ (!b.initOk && b.delivered) = false ∧
      exporterDefect (r.cell r.first) a = none ∧ exporterDefect (r.cell r.second) b = none := by
    unfold holdsOnResume
    cases r.valid <;> cases (!a.initOk && a.delivered) <;> cases (!b.initOk && b.delivered) <;>
      cases exporterDefect (r.cell r.first) a <;> cases exporterDefect (r.cell r.second) b <;> simp
  rw [tests]
  simp [exporterDefect]

/-- a raw peer's version that is not looked at can be no defect -/
theorem Holds.obsVersion {c : Cell} {o : Outcome} (r : Resume) (h : Holds c (obsOf o)) : Holds c (obsOf (r.obsVersion o)) := by
  unfold Resume.obsVersion
  split
  · exact ⟨h.wellFormed, fun hu hi => ⟨(h.session hu hi).1, nofun⟩, h.plaintext, h.delivery⟩
  · exact h

/-- the exporter of a sequence is the library's -/
theorem exporterUnderTest_cell {r : Resume} (hv : r.valid = true) (e : ExporterTrust) : (r.cell e).exporterUnderTest = true := by
  obtain ⟨t, p, _, _⟩ := r
  simp only [Resume.valid, Resume.cell, Cell.exporterUnderTest] at hv ⊢
  revert t p
  decide

/-- C18 on the cell of each exporter, taken on its own, is C18 on the sequence -/
theorem holdsOnResume_of_holds {r : Resume} {a b : Obs} (hv : r.valid = true)
    (ha : Holds (r.cell r.first) a) (hb : Holds (r.cell r.second) b) : holdsOnResume r a b = .holds := by
  have hu := exporterUnderTest_cell hv
  exact holdsOnResume_holds_iff.2 ⟨hv, ha.wellFormed, hb.wellFormed,
    fun hi => sessionDefect_eq_none_iff.2 (ha.session (hu _) hi), fun hi => sessionDefect_eq_none_iff.2 (hb.session (hu _) hi)⟩

variable {L : LibCfgs} {c : Cell}

theorem clientEncrypted_of_clientSide {x : Lib × ClientCfg} (h : clientSide L c = some x) : clientEncrypted c = true := by
  obtain ⟨t, sc, sn, cc, ca, p⟩ := c
  -- a plaintext client has no client side
  cases p <;> first | rfl | cases h

theorem peerVersionOK_of_serverSide {sv : ServerCfg} (hu : c.exporterUnderTest = true) (hs : serverSide L c = some sv)
    (h12 : 12 ≤ sv.maxVersion) : peerVersionOK c = true := by
  obtain ⟨t, sc, sn, cc, ca, p⟩ := c
  cases hr : p.isRawServer
  · -- the library's collector has no MaxVersion configured
    cases p <;> simp [Cell.exporterUnderTest, Peer.isRawServer] at hu hr <;> simp [peerVersionOK, Peer.maxVersion]
  · -- a raw server has the MaxVersion of the cell
    simp only [serverSide, hr, if_true, Option.some.injEq] at hs
    subst hs
    simpa [peerVersionOK, rawServer] using Or.inr h12

/-- C18 for ANY configurations `L` and ANY cell. The property demands something of a session completed by the library's
    exporter and of a delivery by the library's collector; both come about only through a handshake
    (`sessionWith_initOk`, `sessionWith_delivered`). So it is enough that, with security settings, both sides encrypt,
    that the exporter's client accepts in a handshake only a server the property allows, at 1.2 or later (`hx`), and that
    the TLS collector given a client CA accepts only a client with a certificate of that CA (`hs`). -/
theorem holds_sessionWith
    (he : L.exporterEncrypts c.transport = true) (hc : L.collectorEncrypts c.transport = true)
    (hx : c.exporterUnderTest = true → ∀ lib cl sv v, clientSide L c = some (lib, cl) → negotiate cl sv = some v →
      verifiesServer lib cl (serverNameOf c.serverName) dialHost (serverCertOf c.serverCert) now = true →
      serverChains c = true ∧ serverInValidity c = true ∧ serverNameOK c = true ∧ 12 ≤ v)
    (hs : ∀ cl, serverAcceptsClient (L.tlsServer true) (presented cl (clientCertOf c.clientCert) (L.tlsServer true)) now = true →
      clientAuthentic c = true) :
    Holds c (obsOf (sessionWith L c)) := by
  refine ⟨sessionWith_delivered_false, ?_, ?_, ?_⟩
  · intro hu hi
    obtain ⟨sv, v, hsv, hn, hver, hw⟩ := sessionWith_initOk (clientSide_exporter he hu) hi
    obtain ⟨hchains, hvalid, hname, h12⟩ := hx hu _ _ sv v (clientSide_exporter he hu) hn hver
    have hp : c.peer ≠ .plainSrv := by
      intro hp
      rw [serverSide_plainSrv hp] at hsv
      cases hsv
    -- the peer can do the negotiated version
    have hle : v ≤ sv.maxVersion := (negotiate_eq_some hn).1 ▸ Nat.min_le_right ..
    have hpv := peerVersionOK_of_serverSide hu hsv (Nat.le_trans h12 hle)
    refine ⟨?_, fun w hw' => hw w hw' ▸ h12⟩
    simp [sessionAllowed, serverEncrypted, hp, hchains, hvalid, hname, hpv]
  · intro hp
    have hu : c.exporterUnderTest = true := by simp [Cell.exporterUnderTest, hp]
    rw [sessionWith_of_no_server (clientSide_exporter he hu) (serverSide_plainSrv hp)]
    rfl
  · intro hu hd
    obtain ⟨lib, cl, hcl, hacc⟩ := sessionWith_delivered (serverSide_collector hc hu) hd
    rw [deliveryAllowed, clientEncrypted_of_clientSide hcl, Bool.true_and]
    cases h : (c.transport == .tls && c.clientCA)
    · rfl
    · obtain ⟨ht, hca⟩ : c.transport = .tls ∧ c.clientCA = true := by simpa using h
      rw [ht, hca] at hacc
      exact hs cl hacc

end Ipfix.C18
