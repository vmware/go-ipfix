/-
  Big-endian fields as bytes (beside `be_length`, `unbe_be`, ... of Model/Bytes.lean), and the value codec
  (Model/IE.lean): the graph of `encodeElem` (`Encodes`, in both directions). Length accounting here, the exact
  buffer (Lemmas/RecordBuf.lean) and the round trip (Lemmas/Wire.lean) are read off it arm by arm.
-/
import IpfixModel.Model.IE
namespace Ipfix

@[simp] theorem VariableLength_eq : VariableLength = 65535 := rfl

theorem be_two (n : Nat) : be 2 n = [UInt8.ofNat (n / 256 % 256), UInt8.ofNat (n % 256)] := by
  simp [be]

theorem u8_toNat_ofNat (n : Nat) (h : n < 256) : (UInt8.ofNat n).toNat = n :=
  UInt8.toNat_ofNat_of_lt' h

theorem u8_ofNat_lt {n : Nat} (h : n < 128) : (UInt8.ofNat n).toNat < 128 := by
  rw [u8_toNat_ofNat n (by omega)]
  exact h

/-- a 16-bit field as its two bytes: the form in which every reader of such a field takes it -/
theorem be_two_bytes (n : Nat) (h : n < 65536) :
    ∃ hi lo : UInt8, be 2 n = [hi, lo] ∧ hi.toNat * 256 + lo.toNat = n := by
  refine ⟨_, _, be_two n, ?_⟩
  rw [u8_toNat_ofNat _ (Nat.mod_lt _ (by decide)), u8_toNat_ofNat _ (Nat.mod_lt _ (by decide))]
  omega

theorem be_four_bytes (n : Nat) (h : n < 4294967296) :
    ∃ a b c d : UInt8, be 4 n = [a, b, c, d] ∧ unbe [a, b, c, d] = n := by
  have hu := unbe_be 4 n h
  match hb : be 4 n, be_length 4 n with
  | [a, b, c, d], _ =>
    rw [hb] at hu
    exact ⟨a, b, c, d, rfl, hu⟩

/-- with the enterprise bit set, the two id bytes `i0 i1` are `128 + id / 256` and `id % 256` -/
theorem enterprise_bit {i0 i1 id : Nat} (hid : id < 32768) (h : i0 * 256 + i1 = id + 32768) (h1 : i1 < 256) :
    i0 / 128 = 1 ∧ i0 % 128 * 256 + i1 = id := by
  omega

/-- skipping a whole field, and taking one: with these, `simp only` walks a message laid out as
    `be k₁ v₁ ++ (be k₂ v₂ ++ …)` to any offset -/
theorem drop_be_append {k n : Nat} (v : Nat) (r : Bytes) (h : k ≤ n) :
    (be k v ++ r).drop n = r.drop (n - k) := by
  rw [List.drop_append, List.drop_eq_nil_of_le (by simpa using h), be_length, List.nil_append]

theorem take_be_append (k v : Nat) (r : Bytes) : (be k v ++ r).take k = be k v :=
  List.take_left' (be_length k v)

theorem encodeVar_length {b bs : Bytes} (h : encodeVar b = some bs) : bs.length = varLen b.length := by
  unfold encodeVar at h
  unfold varLen
  split at h
  · simp at h; subst h; simp [*]
  · split at h
    · simp at h; subst h; simp [*]; omega
    · cases h

theorem to4_length {b bs : Bytes} (h : to4 b = some bs) : bs.length = 4 := by
  unfold to4 at h
  split at h
  · simp at h; subst h; assumption
  · split at h
    · rename_i h16; simp at h; subst h; simp [h16.1]
    · cases h

theorem to16_length {b bs : Bytes} (h : to16 b = some bs) : bs.length = 16 := by
  unfold to16 at h
  split at h
  · rename_i h4; simp at h; subst h; simp [v4InV6Prefix, h4]
  · split at h
    · simp at h; subst h; assumption
    · cases h

/-- a statement about every `a` of a list and `f a`, from the same statement over the pairs of the list with
    the list of the values of `f`: for the sweeps over `DataType.all` in Props/C15.lean, where `f` is a look-up in a
    regenerated table that is dear and whose values were computed once (`C15.tie_dataType_codes`) -/
theorem forall_mem_zip_map {α β : Type} {l : List α} {f : α → β} {P : α → β → Prop}
    (h : ∀ p ∈ l.zip (l.map f), P p.1 p.2) : ∀ a ∈ l, P a (f a) := by
  induction l with
  | nil => exact fun a ha => nomatch ha
  | cons x xs ih =>
    intro a ha
    rcases List.mem_cons.1 ha with rfl | ha
    · exact h (a, f a) (by simp)
    · exact ih (fun p hp => h p (by simp [hp])) a ha

theorem DataType.width_pos_le {t : DataType} {w : Nat} (h : t.width = some w) : 0 < w ∧ w ≤ 16 := by
  cases t <;> cases h <;> decide

/-- `t` is a numeric type of `w` bytes: the twelve integer, float and dateTime types that share one arm of the encoder
    and the default arm of the decoder -/
inductive DataType.NumWidth : DataType → Nat → Prop
  | unsigned8 : NumWidth .unsigned8 1
  | unsigned16 : NumWidth .unsigned16 2
  | unsigned32 : NumWidth .unsigned32 4
  | unsigned64 : NumWidth .unsigned64 8
  | signed8 : NumWidth .signed8 1
  | signed16 : NumWidth .signed16 2
  | signed32 : NumWidth .signed32 4
  | signed64 : NumWidth .signed64 8
  | float32 : NumWidth .float32 4
  | float64 : NumWidth .float64 8
  | dateTimeSeconds : NumWidth .dateTimeSeconds 4
  | dateTimeMilliseconds : NumWidth .dateTimeMilliseconds 8

theorem DataType.NumWidth.width {t : DataType} {w : Nat} (h : t.NumWidth w) : t.width = some w := by
  cases h <;> rfl

theorem DataType.NumWidth.of_width {t : DataType} {w : Nat} (hw : t.width = some w)
    (hnum : t ∉ [DataType.boolean, .macAddress, .ipv4Address, .ipv6Address]) : t.NumWidth w := by
  cases t <;> cases hw <;> first | constructor | simp at hnum

theorem decodeElem_num {ie : IE} {w : Nat} (bs : Bytes) (h : ie.ty.NumWidth w) :
    decodeElem ie bs = if bs.length < w then .panic else .ok (.num (unbe (bs.take w))) := by
  obtain ⟨name, id, ty, ent, len⟩ := ie
  cases h <;> rfl

theorem encodeElem_num {ie : IE} {w : Nat} (n : Nat) (h : ie.ty.NumWidth w) :
    encodeElem ie (.num n) = if ie.len = w ∧ n < 256 ^ w then some (be w n) else none := by
  obtain ⟨name, id, ty, ent, len⟩ := ie
  cases h <;> rfl

theorem IE.wf_octetArray {ie : IE} (h : ie.ty = .octetArray) : ie.WF ↔ 0 < ie.len ∧ ie.len ≤ VariableLength := by
  rw [IE.WF, h]

theorem IE.wf_string {ie : IE} (h : ie.ty = .string) : ie.WF ↔ ie.len = VariableLength := by
  rw [IE.WF, h]

theorem IE.WF.len_eq_width {ie : IE} (hwf : ie.WF) {w : Nat} (hw : ie.ty.width = some w) : ie.len = w := by
  unfold IE.WF at hwf
  split at hwf
  next h =>
    rw [h] at hw
    cases hw
  next h =>
    rw [h] at hw
    cases hw
  next =>
    rw [hw] at hwf
    exact hwf

/-- The graph of `encodeElem`: one constructor per arm of the `switch` of
    `encodeInfoElementValueToBuff` as modelled - what the element and the value must be for the arm
    to produce bytes, and the bytes. The twelve numeric types share the arm `num`. -/
inductive Encodes (ie : IE) : Value → Bytes → Prop
  | octetFixed {b : Bytes} : ie.ty = .octetArray → ie.len < VariableLength → b.length = ie.len →
      Encodes ie (.bytes b) b
  | octetVar {b bs : Bytes} : ie.ty = .octetArray → ¬ ie.len < VariableLength → encodeVar b = some bs →
      Encodes ie (.bytes b) bs
  | string {b bs : Bytes} : ie.ty = .string → encodeVar b = some bs → Encodes ie (.bytes b) bs
  | boolean {b : Bool} : ie.ty = .boolean → ie.len = 1 → Encodes ie (.bool b) [if b then 1 else 2]
  | mac {b : Bytes} : ie.ty = .macAddress → ie.len = 6 → b.length = 6 → Encodes ie (.bytes b) b
  | ipv4 {b bs : Bytes} : ie.ty = .ipv4Address → ie.len = 4 → to4 b = some bs → Encodes ie (.bytes b) bs
  | ipv6 {b bs : Bytes} : ie.ty = .ipv6Address → ie.len = 16 → to16 b = some bs → Encodes ie (.bytes b) bs
  | num {n w : Nat} : ie.ty.NumWidth w → ie.len = w → n < 256 ^ w → Encodes ie (.num n) (be w n)

theorem encodeElem_cases {ie : IE} {v : Value} {bs : Bytes} (h : encodeElem ie v = some bs) :
    Encodes ie v bs := by
  obtain ⟨name, id, ty, ent, len⟩ := ie
  -- by the kind of value, then the type of the element; a pair for which `encodeElem` has no arm gives `none = some bs`
  cases v with
  | bytes b =>
    cases ty
    case octetArray =>
      simp only [encodeElem] at h
      split at h
      next hfix =>
        split at h
        next hlen =>
          cases h
          exact .octetFixed rfl hfix hlen
        next => cases h
      next hvar => exact .octetVar rfl hvar h
    case string => exact .string rfl h
    case macAddress =>
      simp only [encodeElem] at h
      split at h
      next hc =>
        cases h
        exact .mac rfl hc.1 hc.2
      next => cases h
    case ipv4Address =>
      simp only [encodeElem] at h
      split at h
      next hl => exact .ipv4 rfl hl h
      next => cases h
    case ipv6Address =>
      simp only [encodeElem] at h
      split at h
      next hl => exact .ipv6 rfl hl h
      next => cases h
    all_goals cases h
  | bool b =>
    cases ty
    case boolean =>
      simp only [encodeElem] at h
      split at h
      next hl =>
        cases h
        exact .boolean rfl hl
      next => cases h
    all_goals cases h
  | num n =>
    have key : ∀ {w}, ty.NumWidth w → Encodes ⟨name, id, ty, ent, len⟩ (.num n) bs := by
      intro w hnum
      rw [encodeElem_num n hnum] at h
      split at h
      next hc =>
        cases h
        exact .num hnum hc.1 hc.2
      next => cases h
    cases ty
    any_goals exact key (by constructor)
    all_goals cases h

theorem Encodes.eq {ie : IE} {v : Value} {bs : Bytes} (h : Encodes ie v bs) : encodeElem ie v = some bs := by
  cases h with
  | octetFixed hty hfix hlen => simp only [encodeElem, hty, hfix, hlen, if_true]
  | octetVar hty hvar he => simp only [encodeElem, hty, hvar, he, if_false]
  | string hty he => simp [encodeElem, hty, he]
  | boolean hty hl => simp [encodeElem, hty, hl]
  | mac hty hl hb => simp [encodeElem, hty, hl, hb]
  | ipv4 hty hl he => simp [encodeElem, hty, hl, he]
  | ipv6 hty hl he => simp [encodeElem, hty, hl, he]
  | num hnum hl hn => rw [encodeElem_num _ hnum, if_pos ⟨hl, hn⟩]

theorem encodeElem_length {ie : IE} {v : Value} {bs : Bytes} (h : encodeElem ie v = some bs) :
    bs.length = elemLength ie v := by
  cases encodeElem_cases h with
  | octetFixed hty hfix hlen => simp only [elemLength, hty, if_pos hfix, hlen]
  | octetVar hty hvar he => simp only [elemLength, hty, if_neg hvar, encodeVar_length he]
  | string hty he => simp [elemLength, hty, encodeVar_length he]
  | boolean hty hl => simp [elemLength, hty, hl]
  | mac hty hl hb => simp [elemLength, hty, hl, hb]
  | ipv4 hty hl he => simp [elemLength, hty, hl, to4_length he]
  | ipv6 hty hl he => simp [elemLength, hty, hl, to16_length he]
  | num hnum hl hn => simp [elemLength, hl]

end Ipfix
