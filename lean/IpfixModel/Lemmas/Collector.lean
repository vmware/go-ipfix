/-
  The collector's data path, level by level (field, record, record loop): each reader accepts exactly
  what the independent reading of RFC 7011 in Spec/C03.lean describes (`IsField`, `IsRecord`, `Slices`),
  in every decoding mode; how much input it consumes and that it neither crashes nor loops follow.
  Then `decodeDataSet` by the template in force and `decodePacket` by header.
-/
import IpfixModel.Lemmas.IE
import IpfixModel.Spec.C03
namespace Ipfix

namespace Outcome
theorem bind_eq_ok {α β} {x : Outcome α} {f : α → Outcome β} {b : β} :
    (x >>= f) = ok b ↔ ∃ a, x = ok a ∧ f a = ok b := by
  cases x <;> simp [Bind.bind, Outcome.bind]

theorem bind_assoc {α β γ} (x : Outcome α) (f : α → Outcome β) (g : β → Outcome γ) :
    (x >>= f >>= g) = (x >>= fun a => f a >>= g) := by
  cases x <;> rfl

theorem bind_congr {α β} {x : Outcome α} {f g : α → Outcome β} (h : ∀ a, x = ok a → f a = g a) :
    (x >>= f) = (x >>= g) := by
  cases x with
  | ok a => exact h a rfl
  | _ => rfl

theorem bind_eq_self {α} {x : Outcome α} {f : α → Outcome α} (h : ∀ a, x = ok a → f a = ok a) :
    (x >>= f) = x := by
  cases x with
  | ok a => exact h a rfl
  | _ => rfl

def Safe {α} (o : Outcome α) : Prop := o ≠ panic ∧ o ≠ diverge

theorem safe_ok {α} (a : α) : Safe (ok a) := by simp [Safe]
theorem safe_err {α} : Safe (err : Outcome α) := by simp [Safe]

theorem safe_bind {α β} {x : Outcome α} {f : α → Outcome β}
    (hx : Safe x) (hf : ∀ a, x = ok a → Safe (f a)) : Safe (x >>= f) := by
  cases x with
  | ok a => exact hf a rfl
  | err => exact safe_err
  | panic => exact absurd rfl hx.1
  | diverge => exact absurd rfl hx.2
end Outcome

open Outcome

theorem decodeRecord_cons_eq_ok {mode : Mode} {ie : IE} {t : Template} {b r : Bytes} {vs : List Value}
    (h : decodeRecord mode (ie :: t) b = .ok (vs, r)) :
    ∃ v r1 vs', decodeField ie b = .ok (v, r1) ∧ decodeRecord mode t r1 = .ok (vs', r) ∧
      vs = if mode = .drop ∧ ie.name = "" then vs' else v :: vs' := by
  obtain ⟨⟨v, r1⟩, h1, h2⟩ := bind_eq_ok.mp h
  obtain ⟨⟨vs', r2⟩, h3, h4⟩ := bind_eq_ok.mp h2
  simp only at h4
  split at h4
  · cases h4
    exact ⟨v, r1, vs, h1, h3, (if_pos ‹_›).symm⟩
  · cases h4
    exact ⟨v, r1, vs', h1, h3, (if_neg ‹_›).symm⟩

theorem decodeRecord_length {mode : Mode} {tpl : Template} {b r : Bytes} {vs : List Value}
    (h : decodeRecord mode tpl b = .ok (vs, r)) : vs.length ≤ tpl.length := by
  induction tpl generalizing b vs with
  | nil => cases h; simp
  | cons ie t ih =>
    obtain ⟨v, r1, vs', _, h2, rfl⟩ := decodeRecord_cons_eq_ok h
    have := ih h2
    split
    · simp only [List.length_cons]; omega
    · simp only [List.length_cons]; omega

theorem decodeRecords_eq_ok {mode : Mode} {tpl : Template} {body : Bytes} {recs : List (List Value)}
    (h : decodeRecords mode tpl body = .ok recs) :
    0 < minRecordLen tpl ∧ decodeRecordsFuel mode tpl (body.length + 1) body = .ok recs := by
  unfold decodeRecords at h
  split at h
  · cases h
  · exact ⟨by omega, h⟩

section Exact
open C03

theorem readFieldLength_fixed {ie : IE} (hne : ie.len ≠ VariableLength) (b : Bytes) :
    readFieldLength ie b = .ok (ie.len, b) := if_neg hne

/-- what `readFieldLength` has read when it succeeds: a length prefix `pre` (empty for a fixed-length
    element) that announces `n` bytes of payload -/
theorem readFieldLength_ok {ie : IE} {b r : Bytes} {n : Nat} (h : readFieldLength ie b = .ok (n, r)) :
    ∃ pre, b = pre ++ r ∧ ∀ p : Bytes, p.length = n → IsField ie (pre ++ p) p := by
  unfold IsField
  by_cases hvar : ie.len = VariableLength
  · -- variable length: one length byte below 255, or 255 and two more
    unfold readFieldLength at h
    rw [if_pos hvar] at h
    simp only [if_pos hvar]
    match b, h with
    | l :: rr, h =>
      dsimp only at h
      by_cases hl : l.toNat < 255
      · rw [if_pos hl] at h
        cases h
        exact ⟨[l], rfl, fun p hp => .inl ⟨l, rfl, hl, hp⟩⟩
      · rw [if_neg hl] at h
        match rr, h with
        | hi :: lo :: r', h =>
          cases h
          have hl255 : l = 255 := UInt8.toNat_inj.mp (by have := l.toNat_lt; simp; omega)
          exact ⟨[l, hi, lo], rfl, fun p hp => .inr ⟨hi, lo, by rw [hl255]; rfl, hp⟩⟩
  · rw [readFieldLength_fixed hvar] at h
    simp only [if_neg hvar]
    cases h
    exact ⟨[], rfl, fun p hp => ⟨rfl, hp⟩⟩

theorem decodeField_of_isField {ie : IE} {s p : Bytes} (hf : IsField ie s p) (r : Bytes) :
    decodeField ie (s ++ r) = (decodeElem ie p >>= fun v => .ok (v, r)) := by
  -- whatever the prefix, once it has announced `p.length` bytes the reader takes exactly `p`
  have key : ∀ pre : Bytes, readFieldLength ie (pre ++ (p ++ r)) = .ok (p.length, p ++ r) →
      decodeField ie (pre ++ p ++ r) = (decodeElem ie p >>= fun v => .ok (v, r)) := by
    intro pre h
    have h1 : ¬ ((p ++ r).length < p.length) := by simp
    simp only [decodeField, List.append_assoc, h, bind_ok, h1, if_false, List.take_left, List.drop_left]
  unfold IsField at hf
  split at hf
  · rename_i hvar
    rcases hf with ⟨l, rfl, hl, hlen⟩ | ⟨hi, lo, rfl, hlen⟩
    · exact key [l] (by simp [readFieldLength, hvar, hl, hlen])
    · exact key [255, hi, lo] (by simp [readFieldLength, hvar, hlen])
  · rename_i hfix
    obtain ⟨rfl, hlen⟩ := hf
    exact key [] (by rw [readFieldLength_fixed hfix, hlen]; rfl)

theorem decodeField_ok {ie : IE} {b r : Bytes} {v : Value} (h : decodeField ie b = .ok (v, r)) :
    ∃ s p, IsField ie s p ∧ b = s ++ r ∧ decodeElem ie p = .ok v := by
  obtain ⟨⟨n, r0⟩, hr, h2⟩ := bind_eq_ok.mp h
  obtain ⟨pre, rfl, hp⟩ := readFieldLength_ok hr
  simp only at h2
  split at h2
  · cases h2
  · obtain ⟨v', hv, h3⟩ := bind_eq_ok.mp h2
    cases h3
    refine ⟨pre ++ r0.take n, r0.take n, hp _ (by simp [List.length_take]; omega), ?_, hv⟩
    rw [List.append_assoc, List.take_append_drop]

theorem isField_minLen {ie : IE} {s p : Bytes} (h : IsField ie s p) : ie.minLen ≤ s.length := by
  unfold IsField at h
  unfold IE.minLen
  split at h
  · rename_i hv
    rw [if_pos hv]
    rcases h with ⟨l, rfl, _, _⟩ | ⟨hi, lo, rfl, _⟩
    · simp
    · simp
  · rename_i hv
    rw [if_neg hv]
    obtain ⟨rfl, hl⟩ := h
    omega

theorem decodeRecord_ok {mode : Mode} {tpl : Template} {b r : Bytes} {vs : List Value}
    (h : decodeRecord mode tpl b = .ok (vs, r)) :
    ∃ ss ps, IsRecord tpl ss ps ∧ b = ss.flatten ++ r ∧ decodePayloads mode tpl ps = .ok vs := by
  induction tpl generalizing b vs with
  | nil => cases h; exact ⟨[], [], .nil, rfl, rfl⟩
  | cons ie t ih =>
    obtain ⟨v, r1, vs', h1, h2, rfl⟩ := decodeRecord_cons_eq_ok h
    obtain ⟨s, p, hf, rfl, hd⟩ := decodeField_ok h1
    obtain ⟨ss, ps, hrec, rfl, hdp⟩ := ih h2
    refine ⟨s :: ss, p :: ps, .cons hf hrec, by simp, ?_⟩
    simp only [decodePayloads, hd, hdp, bind_ok]
    split <;> rfl

theorem decodeRecord_of_isRecord {mode : Mode} {tpl : Template} {ss ps : List Bytes} {vs : List Value} (r : Bytes)
    (hr : IsRecord tpl ss ps) (hd : decodePayloads mode tpl ps = .ok vs) :
    decodeRecord mode tpl (ss.flatten ++ r) = .ok (vs, r) := by
  induction hr generalizing vs with
  | nil => cases hd; rfl
  | @cons ie t s p ss ps hf _ ih =>
    obtain ⟨v, hv, hd⟩ := bind_eq_ok.mp hd
    obtain ⟨vs', hvs, hd⟩ := bind_eq_ok.mp hd
    simp only [decodeRecord, List.flatten_cons, List.append_assoc, decodeField_of_isField hf, hv, ih hvs, bind_ok]
    split at hd
    · cases hd; rw [if_pos ‹_›]
    · cases hd; rw [if_neg ‹_›]

theorem isRecord_minLen {tpl : Template} {ss ps : List Bytes} (h : IsRecord tpl ss ps) :
    minRecordLen tpl ≤ ss.flatten.length := by
  induction h with
  | nil => simp [minRecordLen]
  | @cons ie t s p ss ps hf _ ih =>
    have := isField_minLen hf
    simp [minRecordLen] at ih ⊢
    omega

theorem decodeRecord_consumes {mode : Mode} {tpl : Template} {b r : Bytes} {vs : List Value}
    (h : decodeRecord mode tpl b = .ok (vs, r)) : r.length + minRecordLen tpl ≤ b.length := by
  obtain ⟨ss, ps, hrec, rfl, _⟩ := decodeRecord_ok h
  have := isRecord_minLen hrec
  simp only [List.length_append]
  omega

theorem slices_bound {tpl : Template} {body pad : Bytes} {raw : List (List Bytes)} (h : Slices tpl body raw pad) :
    pad.length < minRecordLen tpl ∧ raw.length * minRecordLen tpl ≤ body.length := by
  induction h with
  | done hlt => exact ⟨hlt, by simp⟩
  | @cons ss ps rest recs pad hrec _ ih =>
    have := isRecord_minLen hrec
    simp only [List.length_cons, List.length_append, Nat.succ_mul]
    omega

/-- the last clause equates two lists of outcomes: every slice decodes (there is no error on the right), to `recs` in order -/
theorem decodeRecordsFuel_ok {mode : Mode} {tpl : Template} {fuel : Nat} {b : Bytes}
    {recs : List (List Value)} (h : decodeRecordsFuel mode tpl fuel b = .ok recs) :
    ∃ raw pad, Slices tpl b raw pad ∧ raw.map (decodePayloads mode tpl) = recs.map Outcome.ok := by
  induction fuel generalizing b recs with
  | zero => cases h
  | succ f ih =>
    unfold decodeRecordsFuel at h
    split at h
    · cases h
      exact ⟨[], b, .done ‹_›, rfl⟩
    · obtain ⟨⟨r, rest⟩, hr, h⟩ := bind_eq_ok.mp h
      obtain ⟨rs, hrs, h⟩ := bind_eq_ok.mp h
      cases h
      obtain ⟨ss, ps, hrec, rfl, hdp⟩ := decodeRecord_ok hr
      obtain ⟨raw, pad, hsl, hmap⟩ := ih hrs
      exact ⟨ps :: raw, pad, .cons hrec hsl, by simp [hdp, hmap]⟩

theorem decodeRecordsFuel_of_slices {mode : Mode} {tpl : Template} (hmin : 0 < minRecordLen tpl) {body : Bytes}
    {raw : List (List Bytes)} {pad : Bytes} (hs : Slices tpl body raw pad) {vals : List (List Value)}
    (hd : raw.map (decodePayloads mode tpl) = vals.map Outcome.ok) (fuel : Nat) (hf : body.length < fuel) :
    decodeRecordsFuel mode tpl fuel body = .ok vals := by
  induction hs generalizing vals fuel with
  | done hlt =>
    obtain rfl := List.map_eq_nil_iff.mp hd.symm
    cases fuel with
    | zero => omega
    | succ f => simp [decodeRecordsFuel, hlt]
  | @cons ss ps rest recs pad hrec _ ih =>
    obtain ⟨v, vs, rfl, hv, hvs⟩ := List.map_eq_cons_iff.mp hd.symm
    cases fuel with
    | zero => omega
    | succ f =>
      have hlen := isRecord_minLen hrec
      rw [List.length_append] at hf
      have hnot : ¬ ((ss.flatten ++ rest).length < minRecordLen tpl) := by rw [List.length_append]; omega
      rw [decodeRecordsFuel, if_neg hnot, decodeRecord_of_isRecord rest hrec hv.symm]
      simp only [bind_ok, ih hvs.symm f (by omega)]

theorem decodeRecords_of_slices {mode : Mode} {tpl : Template} (hmin : 0 < minRecordLen tpl) {body : Bytes}
    {raw : List (List Bytes)} {pad : Bytes} (hs : Slices tpl body raw pad) {vals : List (List Value)}
    (hd : raw.map (decodePayloads mode tpl) = vals.map Outcome.ok) :
    decodeRecords mode tpl body = .ok vals := by
  rw [decodeRecords, if_neg (by omega)]
  exact decodeRecordsFuel_of_slices hmin hs hd _ (by omega)

end Exact

theorem decodeElem_safe (ie : IE) (bs : Bytes) (h : ∀ w, ie.ty.width = some w → ¬ bs.length < w) :
    Safe (decodeElem ie bs) := by
  unfold decodeElem
  split
  -- most arms are `.ok _` or `.err` outright; two look at `bs`
  any_goals exact safe_ok _
  any_goals exact safe_err
  · -- boolean reads the first byte
    rename_i hb
    cases bs with
    | nil => exact absurd Nat.one_pos (h 1 (by rw [hb]; rfl))
    | cons _ _ => exact safe_ok _
  · -- the default arm (the numeric types) reads as many bytes as the width of the type
    split
    · rename_i w hw
      rw [if_neg (h w hw)]
      exact safe_ok _
    · exact safe_err

theorem readFieldLength_safe (ie : IE) (b : Bytes) : Safe (readFieldLength ie b) := by
  unfold readFieldLength
  split
  · split
    · exact safe_err
    · split
      · exact safe_ok _
      · split
        · exact safe_ok _
        · exact safe_err
  · exact safe_ok _

theorem decodeField_safe (ie : IE) (b : Bytes) (hwf : ie.WF) : Safe (decodeField ie b) := by
  unfold decodeField
  apply safe_bind (readFieldLength_safe ie b)
  rintro ⟨n, r⟩ hr
  simp only
  split
  · exact safe_err
  · refine safe_bind (decodeElem_safe ie _ fun w hw => ?_) fun v _ => safe_ok _
    -- a well-formed element whose type has a width declares that width: it is of fixed length, and `n` is its width
    have := DataType.width_pos_le hw
    have hl := hwf.len_eq_width hw
    rw [readFieldLength_fixed (by rw [hl, VariableLength_eq]; omega)] at hr
    cases hr
    rw [List.length_take]
    omega

theorem decodeRecord_safe (mode : Mode) (tpl : Template) (b : Bytes) (hwf : ∀ ie ∈ tpl, ie.WF) :
    Safe (decodeRecord mode tpl b) := by
  induction tpl generalizing b with
  | nil => exact safe_ok _
  | cons ie t ih =>
    unfold decodeRecord
    apply safe_bind (decodeField_safe ie b (hwf ie (by simp)))
    rintro ⟨v, r⟩ _
    apply safe_bind (ih r (fun x hx => hwf x (by simp [hx])))
    rintro ⟨vs, r'⟩ _
    simp only
    split <;> exact safe_ok _

/-- every iteration consumes at least `minRecordLen` bytes, so fuel beyond the length of the body
    never runs out -/
theorem decodeRecordsFuel_safe (mode : Mode) (tpl : Template) (hwf : ∀ ie ∈ tpl, ie.WF)
    (hmin : 0 < minRecordLen tpl) (fuel : Nat) (b : Bytes) (hf : b.length < fuel) :
    Safe (decodeRecordsFuel mode tpl fuel b) := by
  induction fuel generalizing b with
  | zero => omega
  | succ f ih =>
    unfold decodeRecordsFuel
    split
    · exact safe_ok _
    · apply safe_bind (decodeRecord_safe mode tpl b hwf)
      rintro ⟨r, rest⟩ hr
      have := decodeRecord_consumes hr
      apply safe_bind (ih rest (by omega))
      intro rs _; exact safe_ok _

theorem decodeDataSet_some {mode : Mode} {s : CState} {dom tid : Nat} {tpl : Template}
    (h : s.lookup (dom, tid) = some tpl) (body : Bytes) :
    decodeDataSet mode s dom tid body = (decodeRecords mode tpl body >>= fun recs => .ok (.data tid recs)) := by
  rw [decodeDataSet, h]

theorem decodeDataSet_none {mode : Mode} {s : CState} {dom tid : Nat} (h : s.lookup (dom, tid) = none) (body : Bytes) :
    decodeDataSet mode s dom tid body = .err := by
  rw [decodeDataSet, h]

theorem decodePacket_of_no_header {lookup : Nat → Nat → Option IE} {mode : Mode} {s : CState} {pkt : Bytes}
    (hp : parseHeader pkt = none) : decodePacket lookup mode s pkt = (s, .err) := by
  rw [decodePacket, hp]

theorem decodePacket_of_version {lookup : Nat → Nat → Option IE} {mode : Mode} {s : CState} {pkt body : Bytes}
    {h : Header} (hp : parseHeader pkt = some (h, body)) (hv : h.version ≠ 10) :
    decodePacket lookup mode s pkt = (s, .err) := by
  simp only [decodePacket, hp]
  exact if_pos hv

/-- the Set ID of a template set (RFC 7011 section 3.3.2), as regenerated from the code -/
theorem cTemplateSetID_eq : Generated.cTemplateSetID = 2 := rfl

theorem decodePacket_of_header {lookup : Nat → Nat → Option IE} {mode : Mode} {s : CState} {pkt body : Bytes}
    {h : Header} (hp : parseHeader pkt = some (h, body)) (hv : h.version = 10) :
    decodePacket lookup mode s pkt =
      if h.setID = Generated.cTemplateSetID then
        ((decodeTemplateSet lookup mode s h.dom body).1,
         (decodeTemplateSet lookup mode s h.dom body).2 >>= fun d => .ok { hdr := h, body := d })
      else (s, decodeDataSet mode s h.dom h.setID body >>= fun d => .ok { hdr := h, body := d }) := by
  simp only [decodePacket, hp, hv, ne_eq, not_true_eq_false, if_false]

end Ipfix
