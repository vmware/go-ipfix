/-
  Lemmas that speak of the aggregation model alone (IpfixModel/Model/Agg.lean), shared by the property files.
  The flow map: `State.find` after `State.set` / `State.del`, the keys held after them; `ingest` is a `set` on the
  record's own key (`ingest_eq_set`), from which everything an arrival does to the flow map, the clock and the timeouts
  follows without unfolding `ingest`.
  The flow record: `update` is one `aggregate` call after the correlation step (`update_eq`; the step is `correlated`);
  what `create` and `update` do to readiness and to the retry counter; the statistics lists read position by position;
  `aggNums` and `aggregate` on either side of the early return.
-/
import IpfixModel.Model.Agg
import IpfixModel.Lemmas.Distinct
namespace Ipfix.Agg

theorem find_with_pq (s : State) (q : Array Item) (k : Nat) : ({ s with pq := q }).find k = s.find k := rfl
theorem find_with_now (s : State) (n : Nat) (k : Nat) : ({ s with now := n }).find k = s.find k := rfl

theorem mem_flows_of_find {s : State} {k : Nat} {a : AggRec} (h : s.find k = some a) : (k, a) ∈ s.flows :=
  mem_of_lookup h

theorem any_key_iff (l : List (Nat × AggRec)) (k : Nat) :
    l.any (·.1 == k) = true ↔ k ∈ l.map (·.1) := by
  simp only [List.any_eq_true, List.mem_map, beq_iff_eq]

theorem find_eq_none_iff (s : State) (k : Nat) : s.find k = none ↔ k ∉ s.flows.map (·.1) := by
  rw [← any_key_iff, State.find, Option.map_eq_none_iff, List.find?_eq_none, List.any_eq_true]
  simp only [not_exists, not_and]

theorem mem_keys_of_find {s : State} {k : Nat} {a : AggRec} (h : s.find k = some a) :
    k ∈ s.flows.map (·.1) :=
  List.mem_map_of_mem (f := (·.1)) (mem_flows_of_find h)

theorem find?_key_map (f : Nat × AggRec → Nat × AggRec) (hf : ∀ p, (f p).1 = p.1) (l : List (Nat × AggRec))
    (k : Nat) : (l.map f).find? (·.1 == k) = (l.find? (·.1 == k)).map f := by
  rw [List.find?_map]
  congr 2
  funext p
  exact congrArg (· == k) (hf p)

/-- the replacement `State.set` maps over the flow list keeps every key -/
theorem replace_key (k : Nat) (a : AggRec) (p : Nat × AggRec) : (if p.1 == k then (k, a) else p).1 = p.1 := by
  split
  next h => exact (beq_iff_eq.mp h).symm
  next => rfl

@[simp] theorem set_pq (s : State) (k : Nat) (a : AggRec) : (s.set k a).pq = s.pq := by
  unfold State.set
  split <;> rfl
@[simp] theorem set_now (s : State) (k : Nat) (a : AggRec) : (s.set k a).now = s.now := by
  unfold State.set
  split <;> rfl
@[simp] theorem set_activeT (s : State) (k : Nat) (a : AggRec) : (s.set k a).activeT = s.activeT := by
  unfold State.set
  split <;> rfl
@[simp] theorem set_inactiveT (s : State) (k : Nat) (a : AggRec) :
    (s.set k a).inactiveT = s.inactiveT := by
  unfold State.set
  split <;> rfl

theorem set_keys_of_mem (s : State) (k : Nat) (a : AggRec) (h : k ∈ s.flows.map (·.1)) :
    (s.set k a).flows.map (·.1) = s.flows.map (·.1) := by
  unfold State.set
  rw [if_pos ((any_key_iff _ _).mpr h), List.map_map]
  exact List.map_congr_left fun p _ => replace_key k a p

theorem set_keys_of_not_mem (s : State) (k : Nat) (a : AggRec) (h : k ∉ s.flows.map (·.1)) :
    (s.set k a).flows.map (·.1) = s.flows.map (·.1) ++ [k] := by
  unfold State.set
  rw [if_neg (fun hh => h ((any_key_iff _ _).mp hh))]
  simp

theorem mem_flows_set {s : State} {k : Nat} {a : AggRec} {p : Nat × AggRec} (h : p ∈ (s.set k a).flows) :
    p ∈ s.flows ∨ p = (k, a) := by
  unfold State.set at h
  split at h
  · obtain ⟨q, hq, rfl⟩ := List.mem_map.mp h
    split
    · exact Or.inr rfl
    · exact Or.inl hq
  · exact (List.mem_append.mp h).imp_right List.mem_singleton.mp

theorem find_set_self (s : State) (k : Nat) (a : AggRec) : (s.set k a).find k = some a := by
  unfold State.set
  split
  next h =>
    show Option.map (·.2) ((s.flows.map fun p => if p.1 == k then (k, a) else p).find? (·.1 == k)) = _
    obtain ⟨q, hq⟩ := Option.isSome_iff_exists.mp (List.find?_isSome.mpr (List.any_eq_true.mp h))
    rw [find?_key_map _ (replace_key k a), hq]
    show some (if q.1 == k then (k, a) else q).2 = some a
    rw [if_pos (List.find?_some hq)]
  next h =>
    show Option.map (·.2) ((s.flows ++ [(k, a)]).find? (·.1 == k)) = _
    have hn : s.flows.find? (·.1 == k) = none :=
      List.find?_eq_none.mpr fun x hx hxk => h (List.any_eq_true.mpr ⟨x, hx, hxk⟩)
    rw [List.find?_append, hn]
    simp

theorem find_set_ne (s : State) (k k' : Nat) (a : AggRec) (hne : k' ≠ k) :
    (s.set k a).find k' = s.find k' := by
  unfold State.set
  split
  · show Option.map (·.2) ((s.flows.map fun p => if p.1 == k then (k, a) else p).find? (·.1 == k')) = _
    rw [find?_key_map _ (replace_key k a), Option.map_map]
    refine Option.map_congr fun q hq => ?_
    have hq1 : q.1 = k' := by simpa using List.find?_some hq
    have hk : ¬ (q.1 == k) = true := by simpa [hq1] using hne
    show (if q.1 == k then (k, a) else q).2 = q.2
    rw [if_neg hk]
  · show Option.map (·.2) ((s.flows ++ [(k, a)]).find? (·.1 == k')) = _
    have hk : ¬ (k == k') = true := by simpa using Ne.symm hne
    rw [List.find?_append, List.find?_singleton, if_neg hk, Option.or_none]
    rfl

theorem find_del_self (s : State) (k : Nat) : (s.del k).find k = none := by
  show Option.map (·.2) ((s.flows.filter (·.1 != k)).find? (·.1 == k)) = none
  rw [Option.map_eq_none_iff, List.find?_eq_none]
  intro x hx
  simpa using (List.mem_filter.mp hx).2

theorem find_del_ne (s : State) (k k' : Nat) (hne : k' ≠ k) : (s.del k).find k' = s.find k' := by
  show Option.map (·.2) ((s.flows.filter (·.1 != k)).find? (·.1 == k')) = _
  rw [List.find?_filter]
  congr 2
  funext x
  by_cases hx : x.1 = k'
  · simp [hx, hne]
  · simp [hx]

theorem del_keys (s : State) (k : Nat) :
    (s.del k).flows.map (·.1) = (s.flows.map (·.1)).filter (· != k) := by
  unfold State.del
  simp only [List.filter_map]
  rfl

/-! `if c then s.set k a else s`: the state after the callback, which may have reset the statistics (`scanLoop`) -/

theorem ite_set_pq (c : Bool) (s : State) (k : Nat) (a : AggRec) :
    (if c = true then s.set k a else s).pq = s.pq := by split <;> simp
theorem ite_set_now (c : Bool) (s : State) (k : Nat) (a : AggRec) :
    (if c = true then s.set k a else s).now = s.now := by split <;> simp
theorem ite_set_activeT (c : Bool) (s : State) (k : Nat) (a : AggRec) :
    (if c = true then s.set k a else s).activeT = s.activeT := by split <;> simp
theorem ite_set_inactiveT (c : Bool) (s : State) (k : Nat) (a : AggRec) :
    (if c = true then s.set k a else s).inactiveT = s.inactiveT := by split <;> simp

theorem find_ite_set_ne (c : Bool) (s : State) (k k' : Nat) (a : AggRec) (hne : k' ≠ k) :
    (if c = true then s.set k a else s).find k' = s.find k' := by
  split
  · exact find_set_ne s k k' a hne
  · rfl

theorem mergeV_absent_left (e : CorrV) : mergeV .absent e = e := rfl

theorem mergeV_absent_right {i : CorrV} (hi : i ≠ .absent) : mergeV i .absent = i := by
  unfold mergeV
  rw [if_neg hi, if_pos rfl]

theorem mergeV_present {i e : CorrV} (hi : i ≠ .absent) (he : e ≠ .absent) :
    mergeV i e = if i.isEmpty then e else i := by
  unfold mergeV
  rw [if_neg hi, if_neg he]

theorem corrNum_absent {c : List CorrV} {i : Nat} (h : c[i]? = some .absent) : corrNum c i = 0 := by
  unfold corrNum
  rw [h]

theorem corrStr_absent {c : List CorrV} {i : Nat} (h : c[i]? = some .absent) : corrStr c i = [] := by
  unfold corrStr
  rw [h]

theorem corrNum_set_absent {c : List CorrV} {i : Nat} (h : c[i]? = some .absent) (j : Nat) :
    corrNum (c.set i (.num 0)) j = corrNum c j := by
  by_cases hj : i = j
  · subst hj
    have hlt : i < c.length := (List.getElem?_eq_some_iff.mp h).1
    rw [corrNum_absent h, corrNum, List.getElem?_set_self hlt]
  · rw [corrNum, corrNum, List.getElem?_set_ne hj]

/-- isCorrelationRequired reads the two rule actions and nothing else of the correlate fields -/
theorem corrRequired_congr (ft : Nat) {c c' : List CorrV} (he : corrNum c iEgress = corrNum c' iEgress)
    (hi : corrNum c iIngress = corrNum c' iIngress) : corrRequired ft c = corrRequired ft c' := by
  unfold corrRequired
  rw [he, hi]

/-- the stored record after the correlation step of addOrUpdateRecordInMap: correlateRecords merges `r` into it
    exactly when `r` is the first record from the other node of a flow that waits for it -/
def correlated (r : InRec) (a : AggRec) : AggRec :=
  if corrRequired r.flowType r.corr && (!a.ready && !sameNode r.corr a.corr)
  then { a with corr := correlate r.corr a.corr, ready := true, corrFilled := true } else a

/-- `update` is the correlation step followed by the statistics update; without correlation the record counts
    for both nodes, with it for the node it comes from -/
theorem update_eq (r : InRec) (a : AggRec) :
    update r a = aggregate r (correlated r a)
      (!corrRequired r.flowType r.corr || fromSrc r.corr) (!corrRequired r.flowType r.corr || !fromSrc r.corr) := by
  unfold update correlated
  cases corrRequired r.flowType r.corr with
  | false => rfl
  | true =>
    rw [if_pos rfl, Bool.true_and]
    cases fromSrc r.corr with
    | false => rfl
    | true => rfl

theorem correlated_merges {r : InRec} {a : AggRec} (hc : corrRequired r.flowType r.corr = true)
    (hr : a.ready = false) (hs : sameNode r.corr a.corr = false) :
    correlated r a = { a with corr := correlate r.corr a.corr, ready := true, corrFilled := true } := by
  rw [correlated, hc, hr, hs]
  rfl

theorem correlated_of_not_required {r : InRec} (a : AggRec) (h : corrRequired r.flowType r.corr = false) :
    correlated r a = a := by
  rw [correlated, h]
  rfl

theorem correlated_nums (r : InRec) (a : AggRec) : (correlated r a).nums = a.nums := by
  unfold correlated
  split
  · rfl
  · rfl

theorem create_ready (r : InRec) : (create r).ready = !corrRequired r.flowType r.corr := rfl

theorem create_corrFilled (r : InRec) : (create r).corrFilled =
    if corrRequired r.flowType r.corr then false else r.flowType != Generated.cFlowTypeInterNode := rfl

theorem create_retries (r : InRec) : (create r).retries = 0 := rfl

theorem update_ready (r : InRec) (a : AggRec) :
    (update r a).ready = (a.ready || (corrRequired r.flowType r.corr && !sameNode r.corr a.corr)) := by
  rw [update_eq]
  show (correlated r a).ready = _
  rw [correlated, apply_ite AggRec.ready]
  show (if _ then true else a.ready) = _
  cases a.ready <;> cases corrRequired r.flowType r.corr <;> cases sameNode r.corr a.corr <;> rfl

theorem update_corr_unready (r : InRec) (a : AggRec) (h : (update r a).ready = false) :
    (update r a).corr = a.corr := by
  rw [update_eq] at h ⊢
  unfold correlated at h ⊢
  split at h
  · cases h
  · rw [if_neg ‹_›]
    rfl

/-- for records that each come from exactly one of the two nodes (the destination flag is the negation of the
    source flag), "same node" is "same side" -/
theorem sameNode_eq {a b : List CorrV} (ha : fromSrc a ≠ fromDst a) (hb : fromSrc b ≠ fromDst b) :
    sameNode a b = (fromSrc a == fromSrc b) := by
  rw [sameNode, Bool.eq_not_of_ne ha.symm, Bool.eq_not_of_ne hb.symm]
  cases fromSrc a <;> cases fromSrc b <;> rfl

/-- `c1`: the correlate fields the flow holds while it waits (those of its first record) -/
theorem foldl_update_ready (c1 : List CorrV) (hp1 : fromSrc c1 ≠ fromDst c1) (rs : List InRec)
    (hall : ∀ r ∈ rs, corrRequired r.flowType r.corr = true ∧ fromSrc r.corr ≠ fromDst r.corr) (a : AggRec)
    (hc : a.ready = false → a.corr = c1) :
    (rs.foldl (fun a r => update r a) a).ready = (a.ready || rs.any fun r => fromSrc r.corr != fromSrc c1) := by
  induction rs generalizing a with
  | nil => exact (Bool.or_false _).symm
  | cons r t ih =>
    obtain ⟨hcr, hpr⟩ := hall r List.mem_cons_self
    have hu : (update r a).ready = (a.ready || fromSrc r.corr != fromSrc c1) := by
      rw [update_ready, hcr, Bool.true_and]
      cases har : a.ready with
      | true => rfl
      | false =>
        rw [hc har, sameNode_eq hpr hp1]
        rfl
    rw [List.foldl_cons, ih (fun x hx => hall x (List.mem_cons_of_mem _ hx)) (update r a) ?_, hu, List.any_cons,
      Bool.or_assoc]
    -- still withheld after `r`: it was withheld before, and `r` left the correlate fields alone
    intro hur
    rw [update_corr_unready r a hur]
    rw [hu] at hur
    exact hc (Bool.or_eq_false_iff.mp hur).1

theorem aggregate_retries (r : InRec) (a : AggRec) (fs fd : Bool) : (aggregate r a fs fd).retries = a.retries := rfl

theorem update_retries (r : InRec) (a : AggRec) : (update r a).retries = a.retries := by
  rw [update_eq]
  unfold correlated
  split
  · rfl
  · rfl

theorem resetStats_retries (a : AggRec) : (resetStats a).retries = a.retries := rfl
theorem resetStats_ready (a : AggRec) : (resetStats a).ready = a.ready := rfl

/-! The statistics lists are `(List.range n).map f`, read with `getD · 0` -/

theorem getD_range_map (n : Nat) (f : Nat → Nat) (i : Nat) :
    ((List.range n).map f).getD i 0 = if i < n then f i else 0 := by
  by_cases h : i < n <;> simp [List.getD_eq_getElem?_getD, h]

theorem range_map_getD_self (l : List Nat) : (List.range l.length).map (fun i => l.getD i 0) = l := by
  apply List.ext_getElem
  · simp
  · intro i h1 h2
    simp at h1
    simp [h1]

theorem zeros_getD (n i : Nat) : (zeros n).getD i 0 = 0 := by
  unfold zeros
  by_cases h : i < n <;> simp [List.getD_eq_getElem?_getD, h]

/-- the clearing function of `resetStats`, which has no name there: a word-for-word copy of its local `clr`, tied to it by
    `resetStats_eq` (a `rfl`, which is what fails when `resetStats` is edited and this is not) -/
def clr (l : List Nat) : List Nat := (List.range l.length).map fun i => if isDelta i then 0 else l.getD i 0

theorem clr_getD (l : List Nat) (i : Nat) : (clr l).getD i 0 = if isDelta i then 0 else l.getD i 0 := by
  unfold clr
  rw [getD_range_map]
  by_cases h : i < l.length
  · simp [h]
  · simp [h]

theorem clr_range_map (n : Nat) (f : Nat → Nat) :
    clr ((List.range n).map f) = (List.range n).map fun i => if isDelta i then 0 else f i := by
  unfold clr
  rw [List.length_map, List.length_range]
  apply List.map_congr_left
  intro i hi
  rw [getD_range_map, if_pos (List.mem_range.mp hi)]

theorem resetStats_eq (a : AggRec) : resetStats a =
    { a with stats := clr a.stats, srcStats := clr a.srcStats, dstStats := clr a.dstStats,
             thr := [0, 0], thrSrc := [0, 0], thrDst := [0, 0] } := rfl

/-! aggregateRecords compares the record's end time with that of the previous record of its node (`prevEnd`): a record
    that is not later only has the end times written, a later one is aggregated. The right-hand sides below copy the two
    branches of `aggNums` word for word (`if_pos` / `if_neg` close the proofs): they follow an edit of `aggNums`. -/

theorem aggNums_early (r : InRec) (a : AggRec) (fs fd : Bool) (h : r.end_ ≤ prevEnd r a fs fd) :
    aggNums r a.nums fs fd =
      { a.nums with end_ := if r.end_ ≥ a.end_ then r.end_ else a.end_,
                    endSrc := if fs then r.end_ else a.endSrc, endDst := if fd then r.end_ else a.endDst } :=
  if_pos h

/-- ... and fillHttpVals is not reached -/
theorem aggregate_httpVals_early (r : InRec) (a : AggRec) (fs fd : Bool) (h : r.end_ ≤ prevEnd r a fs fd) :
    (aggregate r a fs fd).httpVals = a.httpVals := by
  unfold aggregate
  dsimp only
  cases r.httpVals with
  | none => rfl
  | some i =>
    cases a.httpVals with
    | none => rfl
    | some e => exact if_pos h

theorem aggNums_late (r : InRec) (a : AggRec) (fs fd : Bool) (h : prevEnd r a fs fd < r.end_) :
    aggNums r a.nums fs fd =
      let src' := if fs then updNode a.srcStats r.stats else a.srcStats
      let dst' := if fd then updNode a.dstStats r.stats else a.dstStats
      let growth (i : Nat) : Nat :=
        if fd then (r.stats.getD i 0 + u64 - a.dstStats.getD i 0) % u64
        else if fs then (r.stats.getD i 0 + u64 - a.srcStats.getD i 0) % u64 else 0
      let thr := [(growth iOctetTotal * 8 % u64) / (r.end_ - prevEnd r a fs fd),
                  (growth iRevOctetTotal * 8 % u64) / (r.end_ - prevEnd r a fs fd)]
      { end_ := if r.end_ ≥ a.end_ then r.end_ else a.end_,
        endReason := if a.endReason != Generated.cEndOfFlowReason then r.endReason else a.endReason,
        tcpState := if r.end_ ≥ a.end_ then r.tcpState else a.tcpState,
        stats := (List.range r.stats.length).map fun i =>
          if r.end_ ≥ a.end_ then
            if isDelta i then (if fd then dst'.getD i 0 else if fs then src'.getD i 0 else a.stats.getD i 0)
            else (if a.stats.getD i 0 < r.stats.getD i 0 then r.stats.getD i 0 else a.stats.getD i 0)
          else a.stats.getD i 0,
        srcStats := src', dstStats := dst',
        endSrc := if fs then r.end_ else a.endSrc, endDst := if fd then r.end_ else a.endDst,
        thr := if r.end_ ≥ a.end_ then thr else a.thr,
        thrSrc := if fs then thr else a.thrSrc, thrDst := if fd then thr else a.thrDst } :=
  if_neg (Nat.not_le.mpr h)

theorem updNode_delta (node inc : List Nat) (i : Nat) (hd : isDelta i = true) (hi : i < inc.length) :
    (updNode node inc).getD i 0 = (inc.getD i 0 + node.getD i 0) % u64 := by
  unfold updNode
  rw [getD_range_map, if_pos hi, if_pos hd]

/-- the record held for a flow after the arrival of `r`, `o` being what was held before -/
def heldAfter (o : Option AggRec) (r : InRec) : AggRec :=
  match o with
  | some a => update r a
  | none => create r

/-- addOrUpdateRecordInMap is `set` on the record's own key, plus a change of the expiry queue -/
theorem ingest_eq_set (s : State) (r : InRec) :
    ∃ q, ingest s r = { s.set r.key (heldAfter (s.find r.key) r) with pq := q } := by
  unfold ingest
  cases s.find r.key with
  | none => exact ⟨_, rfl⟩
  | some a =>
    dsimp only [heldAfter]
    cases (s.set r.key (update r a)).pq.toList.findIdx? (·.key == r.key) with
    | none => exact ⟨_, rfl⟩
    | some i => exact ⟨_, rfl⟩

theorem ingest_find (s : State) (r : InRec) (k : Nat) :
    (ingest s r).find k = if k = r.key then some (heldAfter (s.find r.key) r) else s.find k := by
  obtain ⟨q, e⟩ := ingest_eq_set s r
  rw [e, find_with_pq]
  split
  next h =>
    rw [h]
    exact find_set_self s _ _
  next h => exact find_set_ne s _ _ _ h

theorem ingest_find_ne (s : State) (r : InRec) (k : Nat) (h : r.key ≠ k) : (ingest s r).find k = s.find k :=
  (ingest_find s r k).trans (if_neg (Ne.symm h))

theorem ingest_now (s : State) (r : InRec) : (ingest s r).now = s.now := by
  obtain ⟨q, e⟩ := ingest_eq_set s r
  rw [e]
  exact set_now s _ _

theorem ingest_timeouts (s : State) (r : InRec) :
    (ingest s r).activeT = s.activeT ∧ (ingest s r).inactiveT = s.inactiveT := by
  obtain ⟨q, e⟩ := ingest_eq_set s r
  rw [e]
  exact ⟨set_activeT s _ _, set_inactiveT s _ _⟩

/-- correlateRecords position by position -/
theorem correlate_getElem? (inc ex : List CorrV) (i : Nat) (hi : i < inc.length) (he : i < ex.length) :
    (correlate inc ex)[i]? = some (mergeV inc[i] ex[i]) := by
  unfold correlate
  rw [List.getElem?_zipWith, List.getElem?_eq_getElem hi, List.getElem?_eq_getElem he]

end Ipfix.Agg
