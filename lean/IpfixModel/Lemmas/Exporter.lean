/-
  The exporting process (Model/Exporter.lean) by cases: the set an application builds (`SetDesc.build`); what
  `sendBuilt`, `sendBuiltW` and `sendBuiltJ` return and the state they leave; a session of sends (`C08.sendAll`)
  one send at a time. The properties C08, C09, the exporter half of C01 and the lifecycle lemmas of C14
  (Lemmas/Lifecycle.lean) are read off these.
-/
import IpfixModel.Model.Exporter
import IpfixModel.Lemmas.Builder
import IpfixModel.Lemmas.Distinct
namespace Ipfix

theorem foldl_addRecordV2_data (recs : List (Nat × List Elem)) (s0 s : SetB)
    (h : recs.foldl (fun acc r => acc.bind fun s => s.addRecordV2 r.2 r.1) (some s0) = some s)
    (hty : s0.ty = .data) (hi : C16.Inv s0) :
    s.ty = .data ∧ C16.Inv s ∧ s.header = s0.header ∧
    (s.recs.map (·.bytes)).map some = (s0.recs.map (·.bytes)).map some ++ recs.map (fun r => encodeRecord r.2) := by
  induction recs generalizing s0 with
  | nil => cases h; exact ⟨hty, hi, rfl, by simp⟩
  | cons r t ih =>
    rw [List.foldl_cons, Option.bind_some, SetB.addRecordV2_data hty] at h
    cases he : encodeRecord r.2 with
    | none => rw [he, Option.map_none, foldl_none (fun _ => rfl)] at h; cases h
    | some bs =>
      rw [he, Option.map_some] at h
      obtain ⟨b1, b2, b3, b4⟩ := ih _ h hty (hi.push _)
      exact ⟨b1, b2, b3, by rw [b4]; simp [he]⟩

/-- `build true` is PrepareSet(Data, setId) on a new set, then AddRecordV2 per record; for the AddRecord path see
    `C16.add_paths_equiv_data` -/
theorem SetDesc.build_data {d : SetDesc} {s : SetB} (hty : d.ty = .data) (hb : d.build true = some s) :
    s.ty = .data ∧ C16.Inv s ∧ s.header.take 2 = be 2 d.setId ∧
      (d.recs.map (·.2)).map encodeRecord = (s.recs.map (·.bytes)).map some := by
  simp only [SetDesc.build, hty, SetB.new_prepare_data, if_true] at hb
  obtain ⟨h1, h2, h3, h4⟩ := foldl_addRecordV2_data d.recs _ s hb rfl ⟨rfl, rfl⟩
  exact ⟨h1, h2, h3 ▸ take_be_append .., by rw [h4, List.map_map]; rfl⟩

theorem SetDesc.build_template {sid tid : Nat} {es : List Elem} {s : SetB}
    (hb : ({ ty := .template, setId := sid, recs := [(tid, es)] } : SetDesc).build true = some s) :
    s.ty = .template ∧ C16.Inv s ∧ s.header.take 2 = be 2 Generated.cTemplateSetID ∧
      s.recs.map (·.bytes) = [templateRecordBytes tid (es.map (·.1))] := by
  simp only [SetDesc.build, SetB.new_prepare_template, List.foldl_cons, List.foldl_nil, Option.bind_some, if_true] at hb
  rw [SetB.addRecordV2_template rfl] at hb
  cases hb
  exact ⟨rfl, C16.Inv.push ⟨rfl, rfl⟩ _, take_be_append .., rfl⟩

/-- the state after the sequence counter was advanced for the set (`atomic.AddUint32`, data sets only) -/
def ExpState.advance (st : ExpState) (s : SetB) : ExpState :=
  { st with seq := if s.ty = .data then (st.seq + s.recs.length) % 4294967296 else st.seq }

/-- `updateTemplate` for every record of a template set -/
def ExpState.registerAll (st : ExpState) (recs : List Rec) : ExpState :=
  recs.foldl (fun acc r => acc.register r.tid
    { fieldCount := r.elems.length, minLen := minDataRecLen (r.elems.map (·.1)) }) st

/-- the state a successful SendSet leaves -/
def ExpState.sent (st : ExpState) (s : SetB) : ExpState :=
  if s.ty = .template then (st.advance s).registerAll s.recs else st.advance s

theorem ExpState.advance_seq (st : ExpState) (s : SetB) :
    (st.advance s).seq = if s.ty = .data then (st.seq + s.recs.length) % 4294967296 else st.seq := rfl

theorem ExpState.advance_dom (st : ExpState) (s : SetB) : (st.advance s).dom = st.dom := rfl

theorem ExpState.advance_templates (st : ExpState) (s : SetB) : (st.advance s).templates = st.templates := rfl

theorem ExpState.advance_seq_lt {st : ExpState} (s : SetB) (h : st.seq < 4294967296) :
    (st.advance s).seq < 4294967296 := by
  rw [ExpState.advance_seq]
  split
  · exact Nat.mod_lt _ (by decide)
  · exact h

theorem ExpState.advance_seq_template (st : ExpState) {s : SetB} (ht : s.ty = .template) :
    (st.advance s).seq = st.seq := by
  rw [ExpState.advance_seq, ht]
  rfl

theorem ExpState.register_seq_dom (st : ExpState) (id : Nat) (t : TplInfo) :
    (st.register id t).seq = st.seq ∧ (st.register id t).dom = st.dom := by
  unfold ExpState.register
  split <;> exact ⟨rfl, rfl⟩

theorem ExpState.register_mem {st : ExpState} {id : Nat} {t : TplInfo} {x : Nat × TplInfo}
    (hx : x ∈ (st.register id t).templates) : x ∈ st.templates ∨ x = (id, t) := by
  unfold ExpState.register at hx
  split at hx
  · exact .inl hx
  · simpa using hx

theorem ExpState.registerAll_seq_dom (recs : List Rec) (st : ExpState) :
    (st.registerAll recs).seq = st.seq ∧ (st.registerAll recs).dom = st.dom := by
  induction recs generalizing st with
  | nil => exact ⟨rfl, rfl⟩
  | cons r t ih =>
    obtain ⟨h1, h2⟩ := ih (st.register r.tid _)
    obtain ⟨h3, h4⟩ := st.register_seq_dom r.tid { fieldCount := r.elems.length, minLen := minDataRecLen (r.elems.map (·.1)) }
    exact ⟨h1.trans h3, h2.trans h4⟩

theorem ExpState.registerAll_mem {recs : List Rec} {st : ExpState} {x : Nat × TplInfo}
    (hx : x ∈ (st.registerAll recs).templates) :
    x ∈ st.templates ∨ ∃ r ∈ recs, r.tid = x.1 ∧ x.2.fieldCount = r.elems.length := by
  induction recs generalizing st with
  | nil => exact .inl hx
  | cons r t ih =>
    rcases ih (st := st.register r.tid _) hx with h | ⟨r', hr', h⟩
    · rcases ExpState.register_mem h with h | rfl
      · exact .inl h
      · exact .inr ⟨r, List.mem_cons_self, rfl, rfl⟩
    · exact .inr ⟨r', List.mem_cons_of_mem _ hr', h⟩

theorem ExpState.sent_seq_dom (st : ExpState) (s : SetB) :
    (st.sent s).seq = (st.advance s).seq ∧ (st.sent s).dom = st.dom := by
  unfold ExpState.sent
  split
  · exact ExpState.registerAll_seq_dom _ _
  · exact ⟨rfl, st.advance_dom s⟩

theorem ExpState.template_mem {st : ExpState} {id : Nat} {t : TplInfo} (h : st.template id = some t) :
    (id, t) ∈ st.templates :=
  mem_of_lookup h

theorem ExpState.sane_iff (st : ExpState) (r : Rec) :
    st.sane r = true ↔ ∃ t, st.template r.tid = some t ∧ r.fieldCount = t.fieldCount ∧ t.minLen ≤ r.bytes.length := by
  unfold ExpState.sane
  cases st.template r.tid with
  | none => simp
  | some t => simp [Nat.not_lt]

theorem ExpState.not_refuses_data {st : ExpState} {s : SetB} (hd : s.ty = .data) (h : st.refuses s = false) :
    ∀ r ∈ s.recs, r.tid = s.setId ∧
      ∃ t, st.template r.tid = some t ∧ r.fieldCount = t.fieldCount ∧ t.minLen ≤ r.bytes.length := by
  intro r hr
  simp only [ExpState.refuses, hd, Bool.not_eq_false', List.all_eq_true, Bool.and_eq_true, beq_iff_eq] at h
  exact ⟨(h r hr).1, (st.sane_iff r).1 (h r hr).2⟩

theorem SetB.updateLen_recs (s : SetB) : s.updateLen.recs = s.recs := rfl

theorem ExpState.sendBuilt_eq (st : ExpState) (time : Nat) (s : SetB) :
    st.sendBuilt time s =
      if st.refuses s then (st, .err)
      else match createMsg s.updateLen st.dom (st.advance s).seq time with
        | none => (st.advance s, .err)
        | some w => (st.sent s, .ok w.length w) := by
  -- once `s.ty` is known, both sides are the same `if` / `match` tree over the message `createMsg` returns: abstract
  -- that message and compare case by case
  unfold ExpState.sendBuilt ExpState.refuses ExpState.sent ExpState.registerAll ExpState.advance
  cases s.ty <;> simp only [reduceCtorEq, false_and, true_and, ↓reduceIte, Bool.false_eq_true, SetB.updateLen_recs]
  all_goals
    generalize createMsg _ _ _ _ = c
    cases c <;> rfl

theorem ExpState.sendBuilt_err {st st' : ExpState} {time : Nat} {s : SetB}
    (h : st.sendBuilt time s = (st', .err)) : st' = st ∨ st' = st.advance s := by
  rw [ExpState.sendBuilt_eq] at h
  split at h
  · exact .inl (Prod.mk.inj h).1.symm
  · split at h
    · exact .inr (Prod.mk.inj h).1.symm
    · cases (Prod.mk.inj h).2

theorem ExpState.sendBuilt_ok {st st' : ExpState} {time : Nat} {s : SetB} {n : Nat} {w : Bytes}
    (h : st.sendBuilt time s = (st', .ok n w)) :
    st.refuses s = false ∧ createMsg s.updateLen st.dom (st.advance s).seq time = some w ∧
      n = w.length ∧ st' = st.sent s := by
  rw [ExpState.sendBuilt_eq] at h
  split at h
  · cases (Prod.mk.inj h).2
  · rename_i hr
    split at h
    · cases (Prod.mk.inj h).2
    · rename_i w' hc
      obtain ⟨rfl, hw⟩ := Prod.mk.inj h
      cases hw
      exact ⟨by simpa using hr, hc, rfl, rfl⟩

theorem ExpState.sendBuilt_seq_dom (st : ExpState) (time : Nat) (s : SetB) :
    (st.sendBuilt time s).1.dom = st.dom ∧
    ((st.sendBuilt time s).1.seq = st.seq ∨ (st.sendBuilt time s).1.seq = (st.advance s).seq) := by
  rw [ExpState.sendBuilt_eq]
  split
  · exact ⟨rfl, .inl rfl⟩
  · split
    · exact ⟨st.advance_dom s, .inr rfl⟩
    · exact ⟨(st.sent_seq_dom s).2, .inr (st.sent_seq_dom s).1⟩

theorem ExpState.sendBuilt_seq_lt (st : ExpState) (time : Nat) (s : SetB) (h : st.seq < 4294967296) :
    (st.sendBuilt time s).1.seq < 4294967296 := by
  rcases (st.sendBuilt_seq_dom time s).2 with h1 | h1
  · rw [h1]
    exact h
  · rw [h1]
    exact st.advance_seq_lt s h

theorem ExpState.sendBuilt_template_seq (st : ExpState) (time : Nat) {s : SetB} (ht : s.ty = .template) :
    (st.sendBuilt time s).1.seq = st.seq := by
  rcases (st.sendBuilt_seq_dom time s).2 with h | h
  · exact h
  · exact h.trans (st.advance_seq_template ht)

theorem ExpState.sendBuilt_template (st : ExpState) (time : Nat) (s : SetB) (w : Bytes) (ht : s.ty = .template)
    (hc : createMsg s.updateLen st.dom st.seq time = some w) :
    st.sendBuilt time s = (st.sent s, .ok w.length w) := by
  have hr : st.refuses s = false := by
    unfold ExpState.refuses
    rw [ht]
  rw [ExpState.sendBuilt_eq, hr, st.advance_seq_template ht, hc]
  rfl

theorem ExpState.sendBuiltW_eq (st : ExpState) (time : Nat) (s : SetB) (w : WriteOutcome) :
    st.sendBuiltW time s w =
      match st.sendBuilt time s with
      | (st', .ok n m) => if w.complete m.length then (st', .ok n m) else (st.advance s, .err)
      | r => r := by
  -- as for `sendBuilt_eq`; for a data set the right-hand side matches on the `if` of the sanity check, which is
  -- decided first
  unfold ExpState.sendBuiltW ExpState.sendBuilt ExpState.advance
  cases s.ty <;> simp only [reduceCtorEq, false_and, true_and, ↓reduceIte]
  case data =>
    split
    · rfl
    · generalize createMsg _ _ _ _ = c
      cases c <;> rfl
  all_goals
    generalize createMsg _ _ _ _ = c
    cases c <;> rfl

theorem ExpState.sendBuiltW_of_err {st st' : ExpState} {time : Nat} {s : SetB} (w : WriteOutcome)
    (h : st.sendBuilt time s = (st', .err)) : st.sendBuiltW time s w = (st', .err) := by
  rw [ExpState.sendBuiltW_eq, h]

theorem ExpState.sendBuiltW_of_ok {st st' : ExpState} {time : Nat} {s : SetB} {n : Nat} {m : Bytes}
    (w : WriteOutcome) (h : st.sendBuilt time s = (st', .ok n m)) :
    st.sendBuiltW time s w = if w.complete m.length then (st', .ok n m) else (st.advance s, .err) := by
  rw [ExpState.sendBuiltW_eq, h]

theorem ExpState.wroteW_of_err {st : ExpState} {time : Nat} {s : SetB} (h : (st.sendBuilt time s).2 = .err)
    (w : WriteOutcome) : st.wroteW time s w = [] := by
  rw [ExpState.wroteW, h]

theorem ExpState.wroteW_of_ok {st : ExpState} {time : Nat} {s : SetB} {n : Nat} {m : Bytes}
    (h : (st.sendBuilt time s).2 = .ok n m) :
    st.wroteW time s .ok = m ∧ st.wroteW time s .fail = [] ∧ ∀ k, st.wroteW time s (.short k) = m.take k := by
  simp only [ExpState.wroteW, h, true_and, implies_true]

theorem ExpState.sendBuiltJ_template {st : ExpState} {s : SetB} (ht : s.ty = .template) :
    st.sendBuiltJ s = (st.registerAll s.recs, .ok 0) := by
  unfold ExpState.sendBuiltJ ExpState.registerAll
  rw [ht]

theorem ExpState.sendBuiltJ_fst_of_ne {st : ExpState} {s : SetB} (ht : s.ty ≠ .template) :
    (st.sendBuiltJ s).1 = st := by
  unfold ExpState.sendBuiltJ
  cases hty : s.ty with
  | template => exact absurd hty ht
  | data =>
    -- refused, every record written, or an error after some writes: the state is `st` each time
    dsimp only
    split
    · rfl
    · split <;> rfl
  | undefined => rfl
  | other => rfl

theorem ExpState.sendBuiltJ_of_refuses {st : ExpState} {s : SetB} (h : st.refuses s = true) :
    st.sendBuiltJ s = (st, .err 0) := by
  revert h
  unfold ExpState.refuses ExpState.sendBuiltJ
  cases s.ty <;> simp +contextual

theorem ExpState.sendBuiltJ_data {st : ExpState} {s : SetB} (hd : s.ty = .data) (h : st.refuses s = false) :
    st.sendBuiltJ s =
      if s.recs.all jsonRecOK then (st, .ok s.recs.length) else (st, .err (jsonWrites s.recs)) := by
  revert h
  unfold ExpState.refuses ExpState.sendBuiltJ
  rw [hd]
  intro h
  rw [if_neg (by simp [h])]

theorem ExpState.sendBuiltJW_fst (st : ExpState) (s : SetB) (w : WriteOutcome) :
    (st.sendBuiltJW s w).1 = (st.sendBuiltJ s).1 := by
  unfold ExpState.sendBuiltJW
  split
  · rename_i h
    rw [h]
  · rename_i h
    rw [h]
  · rfl

namespace C08

/-- a session of SendSet calls -/
def sendAll (time : Nat) : ExpState → List SetB → ExpState × List SendResult
  | st, [] => (st, [])
  | st, s :: rest =>
    let r := st.sendBuilt time s
    let rr := sendAll time r.1 rest
    (rr.1, r.2 :: rr.2)

def isOk : SendResult → Bool | .ok _ _ => true | .err => false

def dataRecords (sets : List SetB) : Nat :=
  ((sets.filter (fun s => s.ty = .data)).map (fun s => s.recs.length)).sum

theorem dataRecords_cons (s : SetB) (l : List SetB) :
    dataRecords (s :: l) = (if s.ty = .data then s.recs.length else 0) + dataRecords l := by
  unfold dataRecords
  rw [List.filter_cons]
  by_cases hd : s.ty = .data
  · rw [if_pos (decide_eq_true hd), if_pos hd, List.map_cons, List.sum_cons]
  · rw [if_neg (by simpa using hd), if_neg hd, Nat.zero_add]

/-- the first send of a session in which every send succeeds: the session goes on from the state it leaves, whose
    counter, with the records of any further sets `l` added, is the old counter with those of `s :: l` added -/
theorem sendAll_cons_ok {time : Nat} {st : ExpState} {s : SetB} {rest : List SetB} (hseq : st.seq < 4294967296)
    (hall : (sendAll time st (s :: rest)).2.all isOk = true) :
    ∃ st1 n w, st.sendBuilt time s = (st1, .ok n w) ∧ st1.seq < 4294967296 ∧ st1.dom = st.dom ∧
      sendAll time st (s :: rest) = ((sendAll time st1 rest).1, .ok n w :: (sendAll time st1 rest).2) ∧
      (sendAll time st1 rest).2.all isOk = true ∧
      ∀ l, (st1.seq + dataRecords l) % 4294967296 = (st.seq + dataRecords (s :: l)) % 4294967296 := by
  simp only [sendAll, List.all_cons, Bool.and_eq_true] at hall
  cases hr : st.sendBuilt time s with | mk st1 r1
  rw [hr] at hall
  cases r1 with
  | err => exact absurd hall.1 Bool.false_ne_true
  | ok n w =>
    obtain ⟨_, _, _, rfl⟩ := ExpState.sendBuilt_ok hr
    obtain ⟨hs, hd⟩ := st.sent_seq_dom s
    refine ⟨_, n, w, rfl, hs ▸ st.advance_seq_lt s hseq, hd, by simp only [sendAll, hr], hall.2, fun l => ?_⟩
    rw [hs, dataRecords_cons, ExpState.advance_seq]
    split
    · rw [Nat.mod_add_mod, Nat.add_assoc]
    · rw [Nat.zero_add]

end C08

end Ipfix
