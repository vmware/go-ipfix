/-
  Lemmas about the exact model of `dataRecord.GetBuffer()` (Model/RecordBuf.lean):
  the buffer keeps its length through every step, and on everything the specification encoder
  `encodeRecord` accepts the exact model writes exactly the specified bytes.
-/
import IpfixModel.Model.RecordBuf
import IpfixModel.Lemmas.Builder
namespace Ipfix

@[simp] theorem writeAt_length (buf : Bytes) (idx : Nat) (bs : Bytes) :
    (writeAt buf idx bs).length = buf.length := by
  simp only [writeAt, List.length_append, List.length_take, List.length_drop]
  omega

theorem writeAt_append (pre rest b : Bytes) (h : b.length ≤ rest.length) :
    writeAt (pre ++ rest) pre.length b = pre ++ b ++ rest.drop b.length := by
  have h1 : (pre ++ rest).length - pre.length = rest.length := by simp
  have h2 : b.take rest.length = b := List.take_of_length_le h
  have h3 : (pre ++ rest).drop (pre.length + b.length) = rest.drop b.length := by
    rw [← List.drop_drop]; simp
  simp only [writeAt, h1, h2, h3, List.take_left']

theorem encodeAt_length {ie : IE} {v : Value} {buf buf' : Bytes} {idx : Nat}
    (h : encodeAt ie v buf idx = some buf') : buf'.length = buf.length := by
  unfold encodeAt at h
  split at h
  · cases h
  · split at h
    · cases h
    · obtain ⟨b, _, rfl⟩ := Option.map_eq_some_iff.1 h
      exact writeAt_length buf idx b

theorem recordBufFrom_length (es : List Elem) (buf : Bytes) (idx : Nat) :
    (recordBufFrom buf idx es).length = buf.length := by
  induction es generalizing buf idx with
  | nil => rfl
  | cons e t ih =>
    obtain ⟨ie, v⟩ := e
    simp only [recordBufFrom]
    rw [ih]
    cases h : encodeAt ie v buf idx with
    | none => rfl
    | some b => exact encodeAt_length h

theorem DataType.needWidth_of_width {t : DataType} {w : Nat} (h : t.width = some w) : t.needWidth = w := by
  cases t <;> cases h <;> rfl

theorem rawWrite_num {ie : IE} {w : Nat} (n : Nat) (h : ie.ty.NumWidth w) :
    rawWrite ie (.num n) = some (be w n) := by
  obtain ⟨name, id, ty, ent, len⟩ := ie
  cases h <;> rfl

/-- what the specification encoder accepts, the per-type switch of the code writes as well, and
    check (2) lets it through: the specification encoder insists on the natural width -/
theorem rawWrite_of_encodeElem {ie : IE} {v : Value} {bs : Bytes} (h : encodeElem ie v = some bs) :
    rawWrite ie v = some bs ∧ ie.ty.needWidth ≤ bs.length := by
  cases encodeElem_cases h with
  | octetFixed hty hfix hlen =>
    have hfix' : ie.len < 65535 := hfix
    simp [rawWrite, DataType.needWidth, hty, hfix', hlen]
  | octetVar hty hvar he =>
    have hvar' : ¬ ie.len < 65535 := hvar
    simp [rawWrite, DataType.needWidth, hty, hvar', he]
  | string hty he => simp [rawWrite, DataType.needWidth, hty, he]
  | boolean hty hl => simp [rawWrite, DataType.needWidth, hty]
  | mac hty hl hb => simp [rawWrite, DataType.needWidth, hty, hb]
  | ipv4 hty hl he => simp [rawWrite, DataType.needWidth, hty, he, to4_length he]
  | ipv6 hty hl he => simp [rawWrite, DataType.needWidth, hty, he, to16_length he]
  | num hnum hl hn => simp [rawWrite_num _ hnum, DataType.needWidth_of_width hnum.width]

theorem encodeAt_of_encodeElem {ie : IE} {v : Value} {b : Bytes} (h : encodeElem ie v = some b)
    (pre rest : Bytes) (hr : b.length ≤ rest.length) :
    encodeAt ie v (pre ++ rest) pre.length = some (pre ++ b ++ rest.drop b.length) := by
  have hl := encodeElem_length h
  obtain ⟨hraw, hw⟩ := rawWrite_of_encodeElem h
  unfold encodeAt
  rw [if_neg (by simp only [List.length_append]; omega), if_neg (by omega), hraw]
  simp [writeAt_append pre rest b hr]

/-- the loop started behind `pre`, with exactly the record's length still to fill -/
theorem recordBufFrom_eq_encodeRecord (es : List Elem) (bs : Bytes) (h : encodeRecord es = some bs)
    (pre rest : Bytes) (hr : rest.length = bs.length) :
    recordBufFrom (pre ++ rest) pre.length es = pre ++ bs := by
  revert pre rest
  refine encodeRecord_induction ?_ ?_ h
  · intro pre rest hr
    rw [List.eq_nil_of_length_eq_zero hr]
    rfl
  · intro ie v t b bt he _ ih pre rest hr
    have hb : b.length ≤ rest.length := by rw [hr]; simp
    have := ih (pre ++ b) (rest.drop b.length) (by simp [hr])
    simp only [recordBufFrom, encodeAt_of_encodeElem he pre rest hb, Option.getD_some, ← encodeElem_length he]
    simpa using this

theorem recordBuf_of_encodeRecord {es : List Elem} {bs : Bytes} (h : encodeRecord es = some bs) : recordBuf es = bs := by
  have hlen : (List.replicate (recordLength es) (0 : UInt8)).length = bs.length := by
    rw [List.length_replicate, encodeRecord_length es bs h]
  exact recordBufFrom_eq_encodeRecord es bs h [] _ hlen

end Ipfix
