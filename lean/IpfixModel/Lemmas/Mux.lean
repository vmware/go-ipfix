/-
  Lemmas for C12: invariants of the multiplexer model (Model/Mux.lean) under EVERY schedule, proved by
  cases on its enabled moves (`Move`), and the bridge from the executable predicates of Spec/C12 to
  their propositional meaning.
-/
import IpfixModel.Spec.C12
namespace Ipfix.Mux

theorem getL_setL (l : List (ConnId × List Msg)) (c d : ConnId) (v : List Msg) :
    getL (setL l c v) d = if d = c then v else getL l d := by
  fun_induction setL l c v with
  | case1 c v => simp only [getL, eq_comm]  -- the list is empty: the key is inserted
  | case2 k x r v =>  -- the head has the key: its queue is replaced
    simp only [getL, eq_comm (a := d)]
    split
    · rfl
    · rfl
  | case3 k x r c v hk ih =>  -- the head has another key `k`: the rest is updated
    simp only [getL, ih]
    split
    next e => rw [if_neg (fun h => hk (e.trans h))]
    next => rfl

theorem getL_mem_or_nil (l : List (ConnId × List Msg)) (c : ConnId) : getL l c = [] ∨ (c, getL l c) ∈ l := by
  fun_induction getL l c with
  | case1 c => exact .inl rfl  -- the list is empty
  | case2 k v r => exact .inr List.mem_cons_self  -- the head has the key
  | case3 k v r c hk ih => exact ih.imp_right (List.mem_cons_of_mem _)  -- the head has another key

theorem allEmpty_getL {l : List (ConnId × List Msg)} (h : l.all (fun p => p.2.isEmpty) = true) (c : ConnId) :
    getL l c = [] :=
  (getL_mem_or_nil l c).elim id fun hm => List.isEmpty_iff.1 (List.all_eq_true.1 h _ hm)

theorem proj_snoc (l : List (ConnId × Msg)) (c d : ConnId) (m : Msg) :
    proj (l ++ [(c, m)]) d = if d = c then proj l d ++ [m] else proj l d := by
  by_cases h : d = c
  · simp [proj, List.filter_append, h]
  · simp [proj, List.filter_append, h, Ne.symm h]

theorem proj_cons (l : List (ConnId × Msg)) (c d : ConnId) (m : Msg) :
    proj ((c, m) :: l) d = if d = c then m :: proj l d else proj l d := by
  by_cases h : d = c
  · simp [proj, h]
  · simp [proj, h, Ne.symm h]

theorem proj_nil (c : ConnId) : proj [] c = [] := rfl

theorem mem_proj {log : List (ConnId × Msg)} {c : ConnId} {m : Msg} : m ∈ proj log c ↔ (c, m) ∈ log := by
  simp [proj]

theorem step_stopped (udp : Bool) (s : State) (ch : Choice) (h : s.stopped = true) : step udp s ch = s := by
  simp [step, h]

theorem run_stopped (udp : Bool) (s : State) (sched : List Choice) (h : s.stopped = true) : run udp s sched = s := by
  induction sched with
  | nil => rfl
  | cons ch r ih =>
    simp only [run, List.foldl_cons, step_stopped udp s ch h]
    exact ih

theorem run_append (udp : Bool) (s : State) (a b : List Choice) : run udp s (a ++ b) = run udp (run udp s a) b := by
  simp [run, List.foldl_append]

/-- `step` as a relation: the enabled moves of a collector in state `s`, one constructor per `Choice`,
    each with the guard under which `step` takes it and the state `step` then produces -/
inductive Move (udp : Bool) (s : State) : State → Prop
  | accept (c : ConnId) : c ∉ s.started →
      Move udp s { s with live := c :: s.live, started := c :: s.started }
  | read (c : ConnId) (m : Msg) (rest : List Msg) :
      c ∈ s.live → getL s.hand c = [] → getL s.pending c = m :: rest →
      Move udp s { s with pending := setL s.pending c rest, hand := setL s.hand c [m],
                          accepted := s.accepted ++ [(c, m)] }
  | push (c : ConnId) (m : Msg) (rest : List Msg) : getL s.hand c = m :: rest →
      Move udp s { s with hand := setL s.hand c rest, delivered := s.delivered ++ [(c, m)] }
  | drop (c : ConnId) (x : Msg) (rest : List Msg) : udp = true → getL s.pending c = x :: rest →
      Move udp s { s with pending := setL s.pending c rest }
  | close (c : ConnId) : c ∈ s.live → getL s.hand c = [] →
      Move udp s { s with live := s.live.erase c, done := c :: s.done }
  | stop : handsEmpty s = true →
      Move udp s { s with stopped := true, done := s.live ++ s.done, live := [] }

theorem step_move (udp : Bool) (s : State) (ch : Choice) :
    step udp s ch = s ∨ (s.stopped = false ∧ Move udp s (step udp s ch)) := by
  by_cases hs : s.stopped = true
  · exact .inl (step_stopped udp s ch hs)
  · refine (?_ : _ ∨ Move udp s (step udp s ch)).imp_right (And.intro (Bool.eq_false_iff.2 hs))
    -- a running collector: per choice, the guards of `step` are the premises of the `Move` constructor
    unfold step
    rw [if_neg hs]
    cases ch with
    | accept c =>
      dsimp only
      split
      · exact .inl rfl
      · next h => exact .inr (.accept c h)
    | read c =>
      dsimp only
      split
      · next h =>
        split
        · next m rest hp => exact .inr (.read c m rest h.1 h.2 hp)
        · exact .inl rfl
      · exact .inl rfl
    | push c =>
      dsimp only
      split
      · next m rest hh => exact .inr (.push c m rest hh)
      · exact .inl rfl
    | drop c =>
      dsimp only
      split
      · next hu =>
        split
        · next x rest hp => exact .inr (.drop c x rest hu hp)
        · exact .inl rfl
      · exact .inl rfl
    | close c =>
      dsimp only
      split
      · next h => exact .inr (.close c h.1 h.2)
      · exact .inl rfl
    | stop =>
      dsimp only
      split
      · next h => exact .inr (.stop h)
      · exact .inl rfl

def lineOf (s : State) (c : ConnId) : List Msg := acceptedOf s c ++ getL s.pending c

theorem move_line {udp : Bool} {s s' : State} (t : Move udp s s') (c : ConnId) :
    (lineOf s' c).Sublist (lineOf s c) ∧ (udp = false → lineOf s' c = lineOf s c) := by
  have same : ∀ {s'}, lineOf s' c = lineOf s c →
      (lineOf s' c).Sublist (lineOf s c) ∧ (udp = false → lineOf s' c = lineOf s c) :=
    fun e => ⟨e ▸ List.Sublist.refl _, fun _ => e⟩
  cases t with
  | read c' m rest _ _ hp =>
    refine same ?_
    simp only [lineOf, acceptedOf, getL_setL, proj_snoc]
    split
    next e =>
      rw [e, hp]
      simp
    next => rfl
  | drop c' x rest hu hp =>
    refine ⟨?_, fun h => nomatch hu.symm.trans h⟩
    simp only [lineOf, acceptedOf, getL_setL]
    split
    next e =>
      rw [e, hp]
      exact List.Sublist.append_left (List.sublist_cons_self _ _) _
    next => exact List.Sublist.refl _
  | _ => exact same rfl

def AccInv (s : State) : Prop :=
  ∀ c, acceptedOf s c = deliveredOf s c ++ getL s.hand c ∧ (getL s.hand c).length ≤ 1

theorem AccInv.lineOf_eq {s : State} (h : AccInv s) (c : ConnId) :
    lineOf s c = deliveredOf s c ++ getL s.hand c ++ getL s.pending c := by
  rw [lineOf, (h c).1]

theorem move_accInv {udp : Bool} {s s' : State} (t : Move udp s s') (h : AccInv s) : AccInv s' := by
  intro c
  have ⟨h1, h2⟩ := h c
  cases t with
  | read c' m rest _ hh _ =>
    simp only [acceptedOf, deliveredOf, getL_setL, proj_snoc]
    split
    next e =>
      rw [← acceptedOf, ← deliveredOf, h1, e, hh]
      simp
    next => exact ⟨h1, h2⟩
  | push c' m rest hh =>
    simp only [acceptedOf, deliveredOf, getL_setL, proj_snoc]
    split
    next e =>
      rw [e, hh] at h1 h2
      -- the reader held one message only
      have : rest = [] := List.eq_nil_of_length_eq_zero (by simpa using h2)
      rw [← acceptedOf, ← deliveredOf, e, h1, this]
      simp
    next => exact ⟨h1, h2⟩
  | _ => exact ⟨h1, h2⟩

def LiveInv (s : State) : Prop := s.started.Nodup ∧ s.started.Perm (s.live ++ s.done)

theorem move_liveInv {udp : Bool} {s s' : State} (t : Move udp s s') (h : LiveInv s) : LiveInv s' := by
  obtain ⟨hn, hp⟩ := h
  cases t with
  | accept c' hns => exact ⟨List.nodup_cons.2 ⟨hns, hn⟩, hp.cons c'⟩
  | close c' hl _ =>
    exact ⟨hn, hp.trans (((List.perm_cons_erase hl).append_right _).trans List.perm_middle.symm)⟩
  | _ => exact ⟨hn, hp⟩  -- also `stop`, which puts `live` in front of `done`: the same list

theorem LiveInv.mem_live {s : State} (h : LiveInv s) :
    s.live.Nodup ∧ ∀ c, c ∈ s.live ↔ (c ∈ s.started ∧ c ∉ s.done) := by
  obtain ⟨hn, hp⟩ := h
  have hnd := List.nodup_append.1 (hp.nodup_iff.1 hn)
  refine ⟨hnd.1, fun c => ⟨fun hl => ⟨hp.mem_iff.2 (List.mem_append_left _ hl), fun hd => hnd.2.2 c hl c hd rfl⟩,
    fun ⟨hs, hd⟩ => (List.mem_append.1 (hp.mem_iff.1 hs)).resolve_right hd⟩⟩

def StopInv (s : State) : Prop := s.stopped = true → (∀ c, getL s.hand c = []) ∧ s.live = []

theorem move_stopInv {udp : Bool} {s s' : State} (hs : s.stopped = false) (t : Move udp s s') : StopInv s' := by
  cases t with
  | stop he => exact fun _ => ⟨allEmpty_getL he, rfl⟩
  | _ => exact fun h => nomatch hs.symm.trans h

structure RunInv (udp : Bool) (conns : List (ConnId × List Msg)) (s : State) : Prop where
  line : ∀ c, (lineOf s c).Sublist (getL conns c) ∧ (udp = false → lineOf s c = getL conns c)
  acc : AccInv s
  live : LiveInv s
  stop : StopInv s

theorem runInv_init (udp : Bool) (conns : List (ConnId × List Msg)) : RunInv udp conns (init conns) where
  line c := by
    have : lineOf (init conns) c = getL conns c := by simp [lineOf, init, acceptedOf, proj]
    exact ⟨this ▸ List.Sublist.refl _, fun _ => this⟩
  acc c := by simp [acceptedOf, deliveredOf, init, proj, getL]
  live := ⟨List.nodup_nil, .nil⟩
  stop h := nomatch h

theorem run_inv (udp : Bool) (conns : List (ConnId × List Msg)) (sched : List Choice) :
    RunInv udp conns (run udp (init conns) sched) := by
  suffices ∀ s, RunInv udp conns s → RunInv udp conns (run udp s sched) from this _ (runInv_init udp conns)
  induction sched with
  | nil => exact fun _ h => h
  | cons ch r ih =>
    intro s h
    refine ih _ ?_
    rcases step_move udp s ch with e | ⟨hs, t⟩
    · rwa [e]
    · exact {
        line := fun c => ⟨(move_line t c).1.trans (h.line c).1,
          fun hu => ((move_line t c).2 hu).trans ((h.line c).2 hu)⟩
        acc := move_accInv t h.acc
        live := move_liveInv t h.live
        stop := move_stopInv hs t }

end Ipfix.Mux

namespace Ipfix.C12
open Ipfix.Mux

theorem nodupB_iff (l : List Msg) : nodupB l = true ↔ l.Nodup := by
  induction l with
  | nil => simp [nodupB]
  | cons x r ih => simp [nodupB, ih, List.nodup_cons]

theorem connOK_exact {sent got : List Msg} : connOK .exact sent got = true ↔ got = sent := by
  simp [connOK]

theorem connOK_pref {sent got : List Msg} : connOK .pref sent got = true ↔ got <+: sent := by
  simp [connOK]

theorem connOK_subseq {sent got : List Msg} : connOK .subseq sent got = true ↔ got.Sublist sent ∧ got.Nodup := by
  simp [connOK, nodupB_iff]

theorem connOK_sublist {mode : Mode} {sent got : List Msg} (h : connOK mode sent got = true) : got.Sublist sent := by
  cases mode with
  | exact => exact connOK_exact.1 h ▸ List.Sublist.refl _
  | pref => exact (connOK_pref.1 h).sublist
  | subseq => exact (connOK_subseq.1 h).1

theorem replay_append (q : List (ConnId × List Msg)) (d e : List (ConnId × Msg)) :
    replay q (d ++ e) = (replay q d).bind (fun q' => replay q' e) := by
  fun_induction replay q d with
  | case1 q => rfl  -- `d` is empty
  | case2 q k x r xs hq ih =>  -- the first delivery is the head `x` of its queue
    simp only [List.cons_append, replay, hq, ↓reduceIte, ih]
  | case3 q k x r y xs hq hne =>  -- it is not the head `y`: both sides fail
    simp only [List.cons_append, replay, hq, if_neg hne]
    rfl
  | case4 q k x r hq =>  -- its queue is empty: both sides fail
    simp only [List.cons_append, replay, hq]
    rfl

theorem replay_of_prefix (q : List (ConnId × List Msg)) (d : List (ConnId × Msg)) (r : ConnId → List Msg)
    (h : ∀ c, getL q c = proj d c ++ r c) : ∃ q', replay q d = some q' ∧ ∀ c, getL q' c = r c := by
  induction d generalizing q with
  | nil => exact ⟨q, rfl, h⟩
  | cons p t ih =>
    obtain ⟨k, m⟩ := p
    have hk : getL q k = m :: (proj t k ++ r k) := by
      rw [h k, proj_cons, if_pos rfl]
      rfl
    simp only [replay, hk, ↓reduceIte]
    refine ih _ fun c => ?_
    rw [getL_setL]
    split
    next e => rw [e]
    next e => rw [h c, proj_cons, if_neg e]

theorem fifoWhyOn_none {mode : Mode} {sent : List (ConnId × List Msg)} {del : List (ConnId × Msg)}
    (hnd : ∀ c, (getL sent c).Nodup) (hok : ∀ c, connOK mode (getL sent c) (proj del c) = true) :
    fifoWhyOn mode sent del = none := by
  have hsub : ∀ c, (proj del c).Sublist (getL sent c) := fun c => connOK_sublist (hok c)
  -- a delivered message is one its connection sent, so that connection is a key of `sent`
  have hmem : ∀ p ∈ del, p.1 ∈ keys sent ∧ p.2 ∈ getL sent p.1 := fun (c, m) hp => by
    have hm : m ∈ getL sent c := (hsub c).subset (mem_proj.2 hp)
    refine ⟨?_, hm⟩
    rcases getL_mem_or_nil sent c with e | e
    · rw [e] at hm
      cases hm
    · exact List.mem_map.2 ⟨_, e, rfl⟩
  have h1 : del.all (fun p => (keys sent).contains p.1 && (getL sent p.1).contains p.2) = true := by
    simpa only [List.all_eq_true, Bool.and_eq_true, List.contains_iff_mem] using hmem
  have h2 : (keys sent).all (fun c => nodupB (proj del c)) = true :=
    List.all_eq_true.2 fun c _ => (nodupB_iff _).2 ((hnd c).sublist (hsub c))
  have h3 : (keys sent).all (fun c => (proj del c).isSublist (getL sent c)) = true :=
    List.all_eq_true.2 fun c _ => List.isSublist_iff_sublist.2 (hsub c)
  have h4 : isPerConnFIFO mode sent del = true := by
    simp only [isPerConnFIFO, Bool.and_eq_true, List.all_eq_true, List.contains_iff_mem]
    exact ⟨fun p hp => (hmem p hp).1, fun c _ => hok c⟩
  -- outside sub-sequence mode `hok` makes every projection a prefix of what was sent: the replay succeeds
  have h5 : (mode != .subseq && (replay sent del).isNone) = false := by
    cases mode with
    | subseq => rfl
    | exact =>
      obtain ⟨q, hq, _⟩ := replay_of_prefix sent del (fun _ => []) fun c => by
        rw [List.append_nil, connOK_exact.1 (hok c)]
      rw [hq]
      rfl
    | pref =>
      obtain ⟨q, hq, _⟩ := replay_of_prefix sent del _ fun c =>
        (List.prefix_iff_eq_append.1 (connOK_pref.1 (hok c))).symm
      rw [hq]
      rfl
  simp only [fifoWhyOn, h1, h2, h3, h4, h5, Bool.not_true, Bool.false_eq_true, if_false]

theorem scenario_sent_nodup (sc : Scenario) (c : ConnId) : (getL sc.sent c).Nodup := by
  rcases getL_mem_or_nil sc.sent c with h | h
  · rw [h]
    exact List.nodup_nil
  · -- an entry of `sc.sent` is `(i + 1, List.range cl.n)` for a client `cl`
    generalize getL sc.sent c = v at h ⊢
    obtain ⟨⟨i, cl⟩, _, he⟩ := List.mem_map.1 h
    cases he
    exact List.nodup_range

end Ipfix.C12
