/-
  Proofs about Model/Atomic.lean (generic, core Lean only): an execution of the atomic machine IS a sequential
  execution, in step order (`exec_trace_from`, `exec_trace`), and that order respects real time (`exec_real_time`);
  the linearizability checker only accepts histories that have a real-time-consistent legal sequential order
  (`search_sound`).
-/
import IpfixModel.Model.Atomic
namespace Ipfix.Atomic

universe u v w
variable {σ : Type w} {Op : Type u} {Out : Type v}

theorem lookup_some_mem {α : Type u} {i : Nat} {a : α} :
    ∀ {l : List (Nat × α)}, lookup i l = some a → (i, a) ∈ l
  | [], h => by cases h
  | (j, b) :: l, h => by
    unfold lookup at h
    split at h
    · next e =>
      cases h
      subst e
      exact List.mem_cons_self
    · exact List.mem_cons_of_mem _ (lookup_some_mem h)

theorem mem_remove {α : Type u} {i : Nat} {l : List (Nat × α)} {p : Nat × α} (h : p ∈ remove i l) : p ∈ l :=
  (List.mem_filter.mp h).1

theorem stepOrder_append (l1 l2 : List (Event Op Out)) : stepOrder (l1 ++ l2) = stepOrder l1 ++ stepOrder l2 := by
  induction l1 with
  | nil => rfl
  | cons e l ih =>
    cases e with
    | inv i op => simpa [stepOrder] using ih
    | step i => simp [stepOrder, ih]
    | res i o => simpa [stepOrder] using ih

section machine
variable [DecidableEq Out] (spec : σ → Op → σ × Out)

theorem stepEvent_eq_some {c c' : Cfg σ Op Out} {e : Event Op Out} (h : stepEvent spec c e = some c') :
    match e with
    | .inv i op => i ∉ c.seen ∧ c' = { c with seen := i :: c.seen, pending := (i, op) :: c.pending }
    | .step i => ∃ op, lookup i c.pending = some op ∧
        c' = { c with state := (spec c.state op).1, pending := remove i c.pending,
                      done := (i, (spec c.state op).2) :: c.done,
                      lin := c.lin ++ [{ id := i, op := op, out := (spec c.state op).2 }] }
    | .res i out => lookup i c.done = some out ∧ c' = { c with done := remove i c.done } := by
  cases e with
  | inv i op =>
    simp only [stepEvent] at h
    split at h
    · cases h
    · exact ⟨‹_›, (Option.some.inj h).symm⟩
  | step i =>
    simp only [stepEvent] at h
    split at h
    · cases h
    · next op hl => exact ⟨op, hl, (Option.some.inj h).symm⟩
  | res i out =>
    simp only [stepEvent] at h
    split at h
    · cases h
    · next o hl =>
      split at h
      · next ho => exact ⟨hl.trans (congrArg some ho), (Option.some.inj h).symm⟩
      · cases h

theorem exec_cons_some {c c' : Cfg σ Op Out} {e : Event Op Out} {es : List (Event Op Out)}
    (h : exec spec c (e :: es) = some c') :
    ∃ c1, stepEvent spec c e = some c1 ∧ exec spec c1 es = some c' := by
  unfold exec at h
  split at h
  · cases h
  · next c1 hs => exact ⟨c1, hs, h⟩

theorem exec_append_some {c c' : Cfg σ Op Out} {l1 l2 : List (Event Op Out)}
    (h : exec spec c (l1 ++ l2) = some c') :
    ∃ c1, exec spec c l1 = some c1 ∧ exec spec c1 l2 = some c' := by
  induction l1 generalizing c with
  | nil => exact ⟨c, rfl, h⟩
  | cons e l ih =>
    obtain ⟨c1, h1, h2⟩ := exec_cons_some spec h
    obtain ⟨c2, h3, h4⟩ := ih h2
    refine ⟨c2, ?_, h4⟩
    unfold exec
    rw [h1]
    exact h3

/-- what an execution from `c` to `c'` did: `new` is the sequential history it appended -/
structure Trace (c c' : Cfg σ Op Out) (evs : List (Event Op Out)) (new : List (Entry Op Out)) : Prop where
  lin : c'.lin = c.lin ++ new
  order : new.map (·.id) = stepOrder evs
  seq : seqRun spec c.state (new.map fun t => (t.id, t.op)) = (c'.state, new)
  ops : ∀ t ∈ new, (t.id, t.op) ∈ c.pending ∨ Event.inv t.id t.op ∈ evs
  resp : ∀ i out, Event.res i out ∈ evs → (i, out) ∈ c.done ∨ ∃ t ∈ new, t.id = i ∧ t.out = out

theorem exec_trace_from {c c' : Cfg σ Op Out} {evs : List (Event Op Out)} (h : exec spec c evs = some c') :
    ∃ new, Trace spec c c' evs new := by
  induction evs generalizing c with
  | nil =>
    cases h
    exact ⟨[], (List.append_nil _).symm, rfl, rfl, (fun _ ht => nomatch ht), (fun _ _ hr => nomatch hr)⟩
  | cons e es ih =>
    obtain ⟨c1, h1, h2⟩ := exec_cons_some spec h
    obtain ⟨new, tr⟩ := ih h2
    have h1 := stepEvent_eq_some spec h1
    cases e with
    | inv i op =>
      obtain ⟨-, rfl⟩ := h1
      refine ⟨new, tr.lin, tr.order, tr.seq, fun t ht => ?_,
        fun j out hr => tr.resp j out ((List.mem_cons.mp hr).resolve_left nofun)⟩
      rcases tr.ops t ht with hp | hp
      · rcases List.mem_cons.mp hp with e | hp
        · obtain ⟨rfl, rfl⟩ := Prod.mk.inj e
          exact Or.inr List.mem_cons_self
        · exact Or.inl hp
      · exact Or.inr (List.mem_cons_of_mem _ hp)
    | step i =>
      obtain ⟨op, hl, rfl⟩ := h1
      refine ⟨{ id := i, op := op, out := (spec c.state op).2 } :: new, tr.lin.trans (List.append_assoc _ _ _),
        congrArg (i :: ·) tr.order, ?_, fun t ht => ?_, fun j out hr => ?_⟩
      · have := tr.seq
        simp only at this
        simp only [List.map_cons, seqRun]
        rw [this]
      · rcases List.mem_cons.mp ht with e | ht
        · subst e
          exact Or.inl (lookup_some_mem hl)
        · exact (tr.ops t ht).imp mem_remove (List.mem_cons_of_mem _)
      · rcases tr.resp j out ((List.mem_cons.mp hr).resolve_left nofun) with hd | ⟨t, ht, e1, e2⟩
        · rcases List.mem_cons.mp hd with e | hd
          · exact Or.inr ⟨_, List.mem_cons_self, (congrArg Prod.fst e).symm, (congrArg Prod.snd e).symm⟩
          · exact Or.inl hd
        · exact Or.inr ⟨t, List.mem_cons_of_mem _ ht, e1, e2⟩
    | res i o =>
      obtain ⟨hl, rfl⟩ := h1
      refine ⟨new, tr.lin, tr.order, tr.seq, fun t ht => (tr.ops t ht).imp_right (List.mem_cons_of_mem _),
        fun j out hr => ?_⟩
      rcases List.mem_cons.mp hr with e | hr
      · cases e
        exact Or.inl (lookup_some_mem hl)
      · exact (tr.resp j out hr).imp_left mem_remove

/-- invariant relating the bookkeeping lists -/
structure Inv (c : Cfg σ Op Out) : Prop where
  done_lin : ∀ i, i ∈ c.done.map (·.1) → i ∈ c.lin.map (·.id)
  lin_seen : ∀ i, i ∈ c.lin.map (·.id) → i ∈ c.seen
  pending_seen : ∀ i, i ∈ c.pending.map (·.1) → i ∈ c.seen

omit [DecidableEq Out] in
theorem inv_init (s : σ) : Inv (Cfg.init s : Cfg σ Op Out) :=
  ⟨fun _ h => by simp [Cfg.init] at h, fun _ h => by simp [Cfg.init] at h, fun _ h => by simp [Cfg.init] at h⟩

theorem mem_map_fst_remove {α : Type u} {i j : Nat} {l : List (Nat × α)} (h : j ∈ (remove i l).map (·.1)) :
    j ∈ l.map (·.1) := by
  obtain ⟨p, hp, e⟩ := List.mem_map.mp h
  exact List.mem_map.mpr ⟨p, mem_remove hp, e⟩

theorem stepEvent_inv {c c' : Cfg σ Op Out} {e : Event Op Out} (hi : Inv c) (h : stepEvent spec c e = some c') :
    Inv c' := by
  have h := stepEvent_eq_some spec h
  cases e with
  | inv i op =>
    obtain ⟨-, rfl⟩ := h
    exact ⟨hi.done_lin, fun j hj => List.mem_cons_of_mem _ (hi.lin_seen j hj),
      fun j hj => List.mem_cons.mpr ((List.mem_cons.mp hj).imp_right (hi.pending_seen j))⟩
  | step i =>
    obtain ⟨op, hl, rfl⟩ := h
    have hip : i ∈ c.pending.map (·.1) := List.mem_map.mpr ⟨_, lookup_some_mem hl, rfl⟩
    refine ⟨fun j hj => ?_, fun j hj => ?_, fun j hj => hi.pending_seen j (mem_map_fst_remove hj)⟩
    · rw [List.map_append, List.mem_append]
      exact (List.mem_cons.mp hj).symm.imp (hi.done_lin j) List.mem_singleton.mpr
    · rw [List.map_append, List.mem_append] at hj
      rcases hj with hj | e
      · exact hi.lin_seen j hj
      · exact List.mem_singleton.mp e ▸ hi.pending_seen i hip
  | res i o =>
    obtain ⟨-, rfl⟩ := h
    exact ⟨fun j hj => hi.done_lin j (mem_map_fst_remove hj), hi.lin_seen, hi.pending_seen⟩

theorem exec_inv {c c' : Cfg σ Op Out} {evs : List (Event Op Out)} (hi : Inv c) (h : exec spec c evs = some c') :
    Inv c' := by
  induction evs generalizing c with
  | nil =>
    cases h
    exact hi
  | cons e es ih =>
    obtain ⟨c1, h1, h2⟩ := exec_cons_some spec h
    exact ih (stepEvent_inv spec hi h1) h2

/-- from the initial configuration the appended history is the whole of `lin`, and nothing is pending or done -/
theorem exec_trace {s : σ} {c : Cfg σ Op Out} {evs : List (Event Op Out)}
    (h : exec spec (Cfg.init s) evs = some c) : Trace spec (Cfg.init s) c evs c.lin := by
  obtain ⟨new, tr⟩ := exec_trace_from spec h
  have e : c.lin = new := tr.lin.trans (List.nil_append new)
  exact e ▸ tr

theorem exec_real_time {s : σ} {c : Cfg σ Op Out} {evs : List (Event Op Out)}
    (h : exec spec (Cfg.init s) evs = some c) (a b : Nat) (hp : Precedes evs a b) (hb : b ∈ stepOrder evs) :
    Before (stepOrder evs) a b := by
  obtain ⟨l1, l2, l3, o, op, rfl⟩ := hp
  obtain ⟨c2, hP, hrest⟩ := exec_append_some spec h
  -- b is fresh when it is invoked
  obtain ⟨c3, hb1, _⟩ := exec_cons_some spec hrest
  have hbfresh : b ∉ c2.seen := (stepEvent_eq_some spec hb1).1
  have hinv2 : Inv c2 := exec_inv spec (inv_init s) hP
  have hlin2 := (exec_trace spec hP).order
  have hbnot : b ∉ stepOrder (l1 ++ Event.res a o :: l2) := by
    rw [← hlin2]
    exact fun hm => hbfresh (hinv2.lin_seen b hm)
  -- a has taken effect when it responds
  obtain ⟨c1, h1, hres⟩ := exec_append_some spec hP
  obtain ⟨c1', ha1, _⟩ := exec_cons_some spec hres
  have hinv1 : Inv c1 := exec_inv spec (inv_init s) h1
  have hlin1 := (exec_trace spec h1).order
  have hain : a ∈ stepOrder (l1 ++ Event.res a o :: l2) := by
    rw [stepOrder_append]
    apply List.mem_append_left
    rw [← hlin1]
    apply hinv1.done_lin
    exact List.mem_map.mpr ⟨_, lookup_some_mem (stepEvent_eq_some spec ha1).1, rfl⟩
  refine ⟨stepOrder (l1 ++ Event.res a o :: l2), stepOrder (Event.inv b op :: l3), stepOrder_append _ _, hain, hbnot, ?_⟩
  rw [stepOrder_append] at hb
  exact (List.mem_append.mp hb).resolve_left hbnot

end machine

theorem picks_perm {α : Type u} : ∀ {l : List α} {y : α} {r : List α}, (y, r) ∈ picks l → l.Perm (y :: r)
  | [], _, _, h => by cases h
  | x :: xs, y, r, h => by
    unfold picks at h
    rcases List.mem_cons.mp h with e | h'
    · cases e
      exact List.Perm.refl _
    · obtain ⟨p, hp, e⟩ := List.mem_map.mp h'
      cases e
      have ih : xs.Perm (p.1 :: p.2) := picks_perm (l := xs) (y := p.1) (r := p.2) hp
      exact (List.Perm.cons x ih).trans (List.Perm.swap _ _ _)

section checker
variable [BEq Out] (spec : σ → Op → σ × Out) (fin : σ → Bool)

theorem search_nil (fuel : Nat) (s : σ) : search spec fin fuel s ([] : List (HEvent Op Out)) = fin s := by
  cases fuel <;> rfl

omit [BEq Out] in
theorem realTime_of_minimal {x : HEvent Op Out} {rest l : List (HEvent Op Out)} (hm : minimal x rest = true)
    (hp : l.Perm rest) (hl : RealTime l) : RealTime (x :: l) := by
  refine ⟨fun y hy => ?_, hl⟩
  simpa using List.all_eq_true.mp hm y (hp.mem_iff.mp hy)

theorem search_sound : ∀ (fuel : Nat) (s : σ) (l : List (HEvent Op Out)), search spec fin fuel s l = true →
    ∃ order s', order.Perm l ∧ RealTime order ∧ Legal spec s order s' ∧ fin s' = true
  | fuel, s, [], h => by
    rw [search_nil] at h
    exact ⟨[], s, List.Perm.refl _, trivial, rfl, h⟩
  | 0, s, x :: xs, h => by
    simp [search] at h
  | fuel + 1, s, x :: xs, h => by
    unfold search at h
    obtain ⟨p, hp, hc⟩ := List.any_eq_true.mp h
    simp only [Bool.and_eq_true] at hc
    obtain ⟨hmin, hout, hrec⟩ := hc
    obtain ⟨order, s', hperm, hrt, hlegal, hfin⟩ := search_sound fuel _ p.2 hrec
    refine ⟨p.1 :: order, s', ?_, realTime_of_minimal hmin hperm hrt, ⟨hout, hlegal⟩, hfin⟩
    exact (List.Perm.cons p.1 hperm).trans (picks_perm (y := p.1) (r := p.2) hp).symm

end checker

end Ipfix.Atomic
