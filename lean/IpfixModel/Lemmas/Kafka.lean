/-
  Lemmas for C19 (Kafka publication). The protobuf round trip is proved for ANY canonical message whose
  fields can be encoded (`WireOK`) and are stored unchanged by the typing against the message type
  (`KindOK`): `protoDecodeFull_encodeCanon`; the populated fields of a struct are such a message
  (`normalise_ok`). At the end (namespace C19) the model's own output against the predicate of Spec/C19.
  That a decoder consumes input (`decodeVarintAux_length`, `decodeVarint_length`, `decodeRawField_length`) is in
  Model/Kafka.lean, where the termination of `parseWire` needs it.
-/
import IpfixModel.Lemmas.IE
import IpfixModel.Spec.C19
namespace Ipfix.Kafka

theorem encodeVarintAux_small {f n : Nat} (h : n < 128) : encodeVarintAux (f + 1) n = [UInt8.ofNat n] := by
  rw [encodeVarintAux, if_pos h]

theorem encodeVarintAux_big {f n : Nat} (h : ¬ n < 128) :
    encodeVarintAux (f + 1) n = UInt8.ofNat (128 + n % 128) :: encodeVarintAux f (n / 128) := by
  rw [encodeVarintAux, if_neg h]

/-- the tenth byte (`f = 0`) may only carry bit 63 -/
theorem decodeVarintAux_last {f w acc n : Nat} {r : Bytes} (h : n < 128) (h10 : f = 0 → n < 2) :
    decodeVarintAux (f + 1) w acc (UInt8.ofNat n :: r) = some (acc + n * w, r) := by
  rw [decodeVarintAux, u8_toNat_ofNat n (by omega), if_pos h, if_neg (by omega)]

theorem decodeVarintAux_more {f w acc d : Nat} {r : Bytes} (h : d < 128) :
    decodeVarintAux (f + 1) w acc (UInt8.ofNat (128 + d) :: r) = decodeVarintAux f (w * 128) (acc + d * w) r := by
  rw [decodeVarintAux, u8_toNat_ofNat _ (by omega), if_neg (by omega), Nat.add_sub_cancel_left]

/-- seven bits per byte, and one in the last: `2^64` at the ten bytes of a uint64 -/
theorem decodeVarintAux_encode (k : Nat) : ∀ (n w acc : Nat) (rest : Bytes), n < 2 ^ (7 * k + 1) →
    decodeVarintAux (k + 1) w acc (encodeVarintAux (k + 1) n ++ rest) = some (acc + n * w, rest) := by
  induction k with
  | zero =>
    intro n w acc rest hn
    have h2 : n < 2 := hn
    rw [encodeVarintAux_small (by omega)]
    exact decodeVarintAux_last (by omega) (fun _ => h2)
  | succ k ih =>
    intro n w acc rest hn
    by_cases h : n < 128
    · rw [encodeVarintAux_small h]
      exact decodeVarintAux_last h (fun h0 => absurd h0 (Nat.succ_ne_zero k))
    · have hdiv : n / 128 < 2 ^ (7 * k + 1) :=
        Nat.div_lt_of_lt_mul (by rwa [show 7 * (k + 1) + 1 = 7 + (7 * k + 1) by omega, Nat.pow_add] at hn)
      rw [encodeVarintAux_big h, List.cons_append, decodeVarintAux_more (Nat.mod_lt n (by decide)),
        ih _ _ _ _ hdiv]
      -- acc + n % 128 * w + n / 128 * (w * 128) = acc + n * w
      rw [Nat.add_assoc, Nat.mul_comm w 128, ← Nat.mul_assoc, ← Nat.add_mul, Nat.mod_add_div']

theorem decodeVarint_encodeVarint (n : Nat) (rest : Bytes) (h : n < 2 ^ 64) :
    decodeVarint (encodeVarint n ++ rest) = some (n, rest) := by
  have := decodeVarintAux_encode 9 n 1 0 rest (by simpa using h)
  simpa [decodeVarint, encodeVarint] using this

def WireOK (nv : Nat × PVal) : Prop :=
  1 ≤ nv.1 ∧ nv.1 < 2 ^ 29 ∧
    match nv.2 with
    | .num n => n < 2 ^ 64
    | .str b => b.length < 2 ^ 64

theorem decodeRawField_encodeField (num : Nat) (v : PVal) (rest : Bytes) (h : WireOK (num, v)) :
    decodeRawField (encodeField num v ++ rest) = some (num, v.toRaw, rest) := by
  obtain ⟨h1, h2, h3⟩ := h
  have hwt : v.wireType = 0 ∨ v.wireType = 2 := by cases v <;> simp [PVal.wireType]
  have hnum : ¬ (num < 1 ∨ 2 ^ 29 ≤ num) := by omega
  unfold decodeRawField encodeField
  rw [List.append_assoc, decodeVarint_encodeVarint _ _ (by omega : num * 8 + v.wireType < 2 ^ 64)]
  simp only [show (num * 8 + v.wireType) / 8 = num by omega, if_neg hnum]
  cases v with
  | num n =>
    simp only [show (num * 8 + PVal.wireType (.num n)) % 8 = 0 from Nat.mul_add_mod_self_right ..,
      decodeVarint_encodeVarint _ _ h3]
    rfl
  | str b =>
    simp only [show (num * 8 + PVal.wireType (.str b)) % 8 = 2 from Nat.mul_add_mod_self_right ..,
      List.append_assoc, decodeVarint_encodeVarint _ _ h3]
    simp [PVal.toRaw]

theorem parseWire_nil : parseWire [] = some [] := by
  rw [parseWire]
  simp

theorem parseWire_of_decodeRawField {b r : Bytes} {num : Nat} {v : Raw} (h : decodeRawField b = some (num, v, r)) :
    parseWire b = (parseWire r).map fun l => (num, v) :: l := by
  have hne : b ≠ [] := by
    rintro rfl
    exact absurd (decodeRawField_length h) (Nat.not_lt_zero _)
  rw [parseWire, if_neg (by simpa using hne)]
  split
  · rename_i heq
    rw [h] at heq
    cases heq
  · rename_i num' v' r' heq
    rw [h] at heq
    cases heq
    cases parseWire r <;> rfl

theorem encodeCanon_cons (nv : Nat × PVal) (c : Canon) :
    encodeCanon (nv :: c) = encodeField nv.1 nv.2 ++ encodeCanon c := rfl

theorem parseWire_encodeCanon (c : Canon) (h : ∀ nv ∈ c, WireOK nv) :
    parseWire (encodeCanon c) = some (c.map fun nv => (nv.1, nv.2.toRaw)) := by
  induction c with
  | nil => exact parseWire_nil
  | cons nv c ih =>
    rw [encodeCanon_cons, parseWire_of_decodeRawField (decodeRawField_encodeField _ _ _ (h nv (by simp))),
      ih (fun x hx => h x (by simp [hx]))]
    rfl

def KindOK (fs : List Field) (nv : Nat × PVal) : Prop :=
  ∃ fd, fs.find? (fun x => x.num == nv.1) = some fd ∧
    match fd.kind, nv.2 with
    | .u32, .num n => n < 2 ^ 32
    | .u64, .num _ => True
    | .str, .str b => validUTF8 b = true
    | _, _ => False

theorem typeField_ok (fs : List Field) (nv : Nat × PVal) (h : KindOK fs nv) :
    typeField fs nv.1 nv.2.toRaw = some (some nv) := by
  obtain ⟨fd, hf, hk⟩ := h
  obtain ⟨num, v⟩ := nv
  simp only [typeField, hf]
  -- the three pairs of declared kind and value that `hk` admits (for the other three it is `False`, which `match` sees)
  match fd.kind, v, hk with
  | .u32, .num n, hk => simp [PVal.toRaw, Nat.mod_eq_of_lt hk]
  | .u64, .num n, _ => rfl
  | .str, .str b, hk => simpa [PVal.toRaw] using hk

theorem typeFields_ok (fs : List Field) (c : Canon) (h : ∀ nv ∈ c, KindOK fs nv) :
    typeFields fs (c.map fun nv => (nv.1, nv.2.toRaw)) = some (c, []) := by
  induction c with
  | nil => simp [typeFields]
  | cons nv c ih =>
    have h1 := typeField_ok fs nv (h nv (by simp))
    have h2 := ih (fun x hx => h x (by simp [hx]))
    simp [typeFields, h1, h2]

theorem protoDecodeFull_encodeCanon (fs : List Field) (c : Canon)
    (hw : ∀ nv ∈ c, WireOK nv) (hk : ∀ nv ∈ c, KindOK fs nv) :
    protoDecodeFull fs (encodeCanon c) = some (c, []) := by
  simp [protoDecodeFull, parseWire_encodeCanon c hw, typeFields_ok fs c hk]

theorem mem_insertByNum {x fd : Field} {l : List Field} : x ∈ insertByNum fd l ↔ x = fd ∨ x ∈ l := by
  induction l with
  | nil => simp [insertByNum]
  | cons y r ih =>
    rw [insertByNum]
    split
    · simp
    · simp [ih, or_left_comm]

theorem mem_wireOrder {x : Field} {fs : List Field} : x ∈ wireOrder fs ↔ x ∈ fs := by
  induction fs with
  | nil => simp [wireOrder]
  | cons y r ih => rw [wireOrder, List.foldr_cons, mem_insertByNum, ← wireOrder, ih, List.mem_cons]

theorem get_shape (f : Flow) (fd : Field) :
    match fd.kind with
    | .u32 => ∃ m, f.get fd = .num m ∧ m < 2 ^ 32
    | .u64 => ∃ m, f.get fd = .num m ∧ m < 2 ^ 64
    | .str => ∃ b, f.get fd = .str b := by
  unfold Flow.get
  cases fd.kind <;> rcases List.lookup fd.num f with _ | ⟨n | b⟩ <;> simp [Nat.mod_lt]

theorem mem_normalise {nv : Nat × PVal} {ws : List Field} {f : Flow} :
    nv ∈ normalise ws f ↔ ∃ fd ∈ ws, (f.get fd).isDefault = false ∧ (fd.num, f.get fd) = nv := by
  simp [normalise]

theorem fieldsOK_mem {fs : List Field} (h : fieldsOK fs = true) {fd : Field} (hfd : fd ∈ fs) :
    1 ≤ fd.num ∧ fd.num < 2 ^ 29 ∧ ∃ fd', fs.find? (fun x => x.num == fd.num) = some fd' ∧ fd'.kind = fd.kind := by
  simpa [fieldsOK, and_assoc] using List.all_eq_true.mp h fd hfd

theorem normalise_ok (fs ws : List Field) (hsub : ∀ fd ∈ ws, fd ∈ fs) (hfs : fieldsOK fs = true)
    (f : Flow) (hv : stringsValid (normalise ws f) = true) (hs : sizesOK (normalise ws f) = true) :
    ∀ nv ∈ normalise ws f, WireOK nv ∧ KindOK fs nv := by
  intro nv hnv
  have hv' := List.all_eq_true.mp hv nv hnv
  have hs' := List.all_eq_true.mp hs nv hnv
  obtain ⟨fd, hfd, -, rfl⟩ := mem_normalise.mp hnv
  obtain ⟨h1, h2, fd', hfind, hkind⟩ := fieldsOK_mem hfs (hsub fd hfd)
  have hsh := get_shape f fd
  cases hk : fd.kind <;> rw [hk] at hsh hkind <;> dsimp only at hsh
  case u32 =>
    obtain ⟨m, hm, hlt⟩ := hsh
    rw [hm]
    exact ⟨⟨h1, h2, show m < 2 ^ 64 by omega⟩, fd', hfind, by rw [hkind]; exact hlt⟩
  case u64 =>
    obtain ⟨m, hm, hlt⟩ := hsh
    rw [hm]
    exact ⟨⟨h1, h2, hlt⟩, fd', hfind, by rw [hkind]; trivial⟩
  case str =>
    obtain ⟨b, hb⟩ := hsh
    rw [hb] at hs' hv' ⊢
    exact ⟨⟨h1, h2, by simpa using hs'⟩, fd', hfind, by rw [hkind]; simpa using hv'⟩

theorem protoEncode_eq (fs : List Field) (f : Flow) :
    protoEncode fs f =
      if stringsValid (normalise (wireOrder fs) f) then some (encodeCanon (normalise (wireOrder fs) f)) else none := rfl

theorem protoDecodeFull_normalise (fs : List Field) (hfs : fieldsOK fs = true) (f : Flow)
    (hv : stringsValid (normalise (wireOrder fs) f) = true) (hs : sizesOK (normalise (wireOrder fs) f) = true) :
    protoDecodeFull fs (encodeCanon (normalise (wireOrder fs) f)) = some (normalise (wireOrder fs) f, []) := by
  have hok := normalise_ok fs (wireOrder fs) (fun fd h => mem_wireOrder.mp h) hfs f hv hs
  exact protoDecodeFull_encodeCanon fs _ (fun nv h => (hok nv h).1) (fun nv h => (hok nv h).2)

theorem frame_length (b : Bytes) : (frame b).length = 4 + b.length := by simp [frame]

theorem frame_take (b : Bytes) : (frame b).take 4 = be 4 b.length := by
  simp [frame]

theorem frame_drop (b : Bytes) : (frame b).drop 4 = b := by
  have : (be 4 b.length).length = 4 := be_length 4 _
  simp [frame, this]

/-- the prefix is the real length as long as `uint32(len)` does not wrap -/
theorem frame_prefix (b : Bytes) (h : b.length < 2 ^ 32) : unbe ((frame b).take 4) = b.length := by
  rw [frame_take]
  exact unbe_be 4 b.length (by simpa using h)

theorem unframe_frame (b : Bytes) (h : b.length < 2 ^ 32) : unframe (frame b) = some b := by
  simp [unframe, frame_length, frame_prefix b h, frame_drop]

/-- a string is part of the encoding, so it is shorter than 2^64 as soon as the whole fits the 4-byte prefix -/
theorem sizesOK_of_length (c : Canon) (h : (encodeCanon c).length < 2 ^ 32) : sizesOK c = true := by
  apply List.all_eq_true.mpr
  rintro ⟨num, v⟩ hnv
  cases v with
  | num n => rfl
  | str b =>
    obtain ⟨s, t, rfl⟩ := List.append_of_mem hnv
    simp only [encodeCanon, encodeField, List.flatMap_append, List.flatMap_cons, List.length_append] at h
    simp only [decide_eq_true_eq]
    omega

theorem fieldsOf_snoc (S : Schema) (h : Hdr) (r : Record) (e : IE × Value) :
    fieldsOf S h (r ++ [e]) = applyElem S (fieldsOf S h r) e := by
  simp [fieldsOf, List.foldl_append]

theorem publish_eq_filterMap (S : Schema) (msgs : List Msg) :
    publish S msgs = (dataRecords msgs).filterMap fun hr => payloadOf S hr.1 hr.2 := by
  rw [publish, dataRecords, List.filterMap_flatMap]
  congr 1
  funext m
  unfold publishMsg
  cases m.isData <;> simp [List.filterMap_map, Function.comp_def]

theorem payloadOf_eq (S : Schema) (hr : Hdr × Record) :
    payloadOf S hr.1 hr.2 = if recordValid S hr then some (frame (bodyOf S hr)) else none := by
  rw [payloadOf, protoEncode_eq, recordValid, bodyOf]
  split <;> rfl

theorem publish_eq_map_filter (S : Schema) (msgs : List Msg) :
    publish S msgs = ((dataRecords msgs).filter (recordValid S)).map (fun hr => frame (bodyOf S hr)) := by
  rw [publish_eq_filterMap, ← List.filterMap_eq_map', List.filterMap_filter]
  simp only [payloadOf_eq]

theorem protoDecodeFull_bodyOf (S : Schema) (hfs : fieldsOK S.fields = true) (hr : Hdr × Record)
    (hvalid : recordValid S hr = true) (hfits : recordFits S hr = true) :
    protoDecodeFull S.fields (bodyOf S hr) = some (normalise (wireOrder S.fields) (fieldsOf S hr.1 hr.2), []) :=
  protoDecodeFull_normalise S.fields hfs _ hvalid (sizesOK_of_length _ (of_decide_eq_true hfits))

theorem consumerDecode_frame (S : Schema) (b : Bytes) :
    consumerDecode S (frame b) = match protoDecode S.fields b with | some c => .ok c | none => .err := by
  rw [consumerDecode, if_neg (by rw [frame_length]; omega), frame_drop]
  rfl

def IsAscii (l : Bytes) : Prop := ∀ b ∈ l, b.toNat < 128

theorem validUTF8_cons_ascii (b : UInt8) (r : Bytes) (hb : b.toNat < 128) :
    validUTF8 (b :: r) = validUTF8 r := by
  rw [validUTF8.eq_def]
  exact if_pos hb

theorem validUTF8_of_ascii (l : Bytes) (h : IsAscii l) : validUTF8 l = true := by
  induction l with
  | nil => simp [validUTF8]
  | cons b r ih =>
    rw [validUTF8_cons_ascii b r (h b (by simp))]
    exact ih (fun x hx => h x (by simp [hx]))

@[local simp] theorem isAscii_nil : IsAscii [] := by
  simp [IsAscii]

@[local simp] theorem isAscii_cons {b : UInt8} {r : Bytes} : IsAscii (b :: r) ↔ b.toNat < 128 ∧ IsAscii r := by
  simp [IsAscii]

@[local simp] theorem isAscii_append {a b : Bytes} : IsAscii (a ++ b) ↔ IsAscii a ∧ IsAscii b := by
  simp [IsAscii, or_imp, forall_and]

@[local simp] theorem digitB_lt (d : Nat) : (digitB d).toNat < 128 :=
  u8_ofNat_lt (by omega)

@[local simp] theorem hexB_lt (d : Nat) : (hexB d).toNat < 128 := by
  unfold hexB
  split <;> exact u8_ofNat_lt (by omega)

theorem dec8_ascii (n : Nat) : IsAscii (dec8 n) := by
  simp [dec8, apply_ite IsAscii]

theorem hex16_ascii (n : Nat) : IsAscii (hex16 n) := by
  simp [hex16, apply_ite IsAscii]

theorem hexBytes_ascii (l : Bytes) : IsAscii (hexBytes l) :=
  List.forall_mem_flatMap.mpr fun x _ => by simp

theorem joinWith_ascii (sep : UInt8) (hs : sep.toNat < 128) (l : List Bytes) (h : ∀ x ∈ l, IsAscii x) :
    IsAscii (joinWith sep l) := by
  induction l with
  | nil => exact isAscii_nil
  | cons x r ih =>
    cases r with
    | nil => exact h x (by simp)
    | cons y r =>
      rw [joinWith]
      exact isAscii_append.mpr ⟨h x (by simp), isAscii_cons.mpr ⟨hs, ih (fun z hz => h z (by simp [hz]))⟩⟩

theorem v6String_ascii (g : List Nat) : IsAscii (v6String g) := by
  have hj (l : List Nat) : IsAscii (joinWith 58 (l.map hex16)) :=
    joinWith_ascii 58 (by decide) _ (List.forall_mem_map.mpr fun n _ => hex16_ascii n)
  unfold v6String
  split
  split
  · exact hj g
  · exact isAscii_append.mpr ⟨isAscii_append.mpr ⟨hj _, by simp⟩, hj _⟩

theorem ipString_ascii (ip : Bytes) : IsAscii (ipString ip) := by
  unfold ipString
  split
  · show ∀ b ∈ ascii "<nil>", b.toNat < 128
    decide
  · split
    · exact isAscii_cons.mpr ⟨by decide, hexBytes_ascii ip⟩
    · split
      · exact joinWith_ascii 46 (by decide) _ (List.forall_mem_map.mpr fun b _ => dec8_ascii b.toNat)
      · exact v6String_ascii _

end Ipfix.Kafka

namespace Ipfix.C19
open Ipfix.Kafka

theorem checkAll_of_forall {α : Type} (S : Schema) (topic : Bytes) (e : α → Canon) (o : α → Obs) (l : List α)
    (h : ∀ x ∈ l, checkOne S topic (e x) (o x) = none) (i : Nat) :
    checkAll S topic (l.map e) (l.map o) i = .holds := by
  induction l generalizing i with
  | nil => rfl
  | cons x l ih =>
    have h1 := h x (by simp)
    simp only [List.map_cons, checkAll, h1]
    exact ih (fun y hy => h y (by simp [hy])) (i + 1)

theorem checkOne_frame (S : Schema) (topic : Bytes) {b : Bytes} {c : Canon} (hlen : b.length < 2 ^ 32)
    (hdec : protoDecodeFull S.fields b = some (c, [])) :
    checkOne S topic c (obsOf S topic (frame b)) = none := by
  have hcons : consumerDecode S (frame b) = .ok c := by
    rw [consumerDecode_frame, protoDecode, hdec]
    rfl
  simp [checkOne, obsOf, unframe_frame b hlen, hdec, hcons, Outcome.isOk]

theorem checkOne_bodyOf (S : Schema) (href : refSchema S = S) (hfs : fieldsOK S.fields = true)
    (topic : Bytes) (hr : Hdr × Record) (hvalid : recordValid S hr = true) (hfits : recordFits S hr = true) :
    checkOne S topic (expectedOf S hr) (obsOf S topic (frame (bodyOf S hr))) = none := by
  rw [expectedOf, href]
  exact checkOne_frame S topic (of_decide_eq_true hfits) (protoDecodeFull_bodyOf S hfs hr hvalid hfits)

/-- `model_satisfies_spec` of Props/C19 for ANY schema whose element switch is the reference mapping and whose
    message type is well formed; the `tie_*` theorems there establish both for the two shipped schemas -/
theorem holdsOn_modelObs (S : Schema) (href : refSchema S = S) (hfs : fieldsOK S.fields = true)
    (topic : Bytes) (msgs : List Msg)
    (hwt : msgs.all (Msg.wellTyped S) = true)
    (hvalid : ∀ hr ∈ dataRecords msgs, recordValid S hr = true)
    (hfits : ∀ hr ∈ dataRecords msgs, recordFits S hr = true) :
    holdsOn S topic msgs (modelObs S topic msgs) = .holds := by
  have hpub : publish S msgs = (dataRecords msgs).map (fun hr => frame (bodyOf S hr)) := by
    rw [publish_eq_map_filter, List.filter_eq_self.mpr hvalid]
  unfold holdsOn modelObs
  rw [href, hwt, hpub, List.map_map]
  simp only [Bool.not_true, Bool.false_eq_true, if_false, List.length_map, if_true, Function.comp_def]
  exact checkAll_of_forall S topic (expectedOf S) _ _
    (fun hr hhr => checkOne_bodyOf S href hfs topic hr (hvalid hr hhr) (hfits hr hhr)) 0

end Ipfix.C19
