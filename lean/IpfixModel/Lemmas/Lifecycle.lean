/-
  Lemmas for C14 (Props/C14.lean). One SendSet and one closeConnToCollector on the lifecycle state are
  characterised by equations and, for SendSet, the case split over them (`send_cases`); `step_rule` reduces every
  event to those moves and `run_rule` lifts what the events preserve to schedules. The invariants of the event system
  and the refresher's send loop follow from these. Cutting the TCP stream back into messages, at the end, stands by
  itself.
  What a message on the wire looks like to the independent parser is read off theorems of other properties, hence
  the import of Props/C08: `C16.add_paths_equiv_template` (MakeTemplateSet goes through AddRecord), `C02.wire_header` and
  `C02.wire_template` (`tplSet_wire`), `C08.sent_message_parses` (`sent_wellFormed`).
-/
import IpfixModel.Model.Lifecycle
import IpfixModel.Spec.C14
import IpfixModel.Props.C08
import IpfixModel.Lemmas.Exporter
namespace Ipfix.Life
open ExpSpec

theorem zeroValue_empty {ie : IE} {v : Value} (h : zeroValue ie = .ok v) : valueEmpty v = true := by
  unfold zeroValue at h
  split at h <;> cases h <;> rfl

theorem zeroElems_spec : ∀ (ies : List IE) (es : List Elem), zeroElems ies = some es →
    es.map (·.1) = ies ∧ ∀ e ∈ es, elemEmpty e = true
  | [], es, h => by
    cases h
    exact ⟨rfl, fun _ he => nomatch he⟩
  | ie :: t, es, h => by
    rw [zeroElems] at h
    split at h
    next v es' hz ht =>  -- the element has the zero value `v`, the others have `es'`
      cases h
      obtain ⟨h1, h2⟩ := zeroElems_spec t es' ht
      refine ⟨by rw [List.map_cons, h1], fun e he => ?_⟩
      rcases List.mem_cons.mp he with rfl | he
      · simp [elemEmpty, zeroValue_empty hz]
      · exact h2 e he
    next => cases h

/-- the set MakeTemplateSet returns when every element has a zero value; nothing below depends on those values -/
def tplSetOf (tid : Nat) (ies : List IE) : SetB :=
  { header := be 2 Generated.cTemplateSetID ++ [0, 0], ty := .template,
    recs := [{ isTemplate := true, tid := tid, fieldCount := ((zeroElems ies).getD []).length,
               elems := (zeroElems ies).getD [], bytes := templateRecordBytes tid ies }],
    length := 4 + (templateRecordBytes tid ies).length }

/-- zero values are empty, so AddRecord takes the template path (C16 `add_paths_equiv_template`) -/
theorem makeTemplateSet_eq (tid : Nat) (ies : List IE) :
    makeTemplateSet tid ies = if (zeroElems ies).isSome then some (tplSetOf tid ies) else none := by
  unfold makeTemplateSet
  cases hz : zeroElems ies with
  | none => rfl
  | some es =>
    obtain ⟨hm, he⟩ := zeroElems_spec ies es hz
    simp only [SetB.prepare, Option.bind]
    rw [C16.add_paths_equiv_template _ es tid rfl he, SetB.addRecordV2_template rfl]
    simp [SetB.new, hm, hz, tplSetOf]

theorem doClose_of_closed {st : LState} (h : st.closed = true) : st.doClose = st := by
  simp [LState.doClose, h]

theorem doClose_of_open {st : LState} (h : st.closed = false) :
    st.doClose = { st with closed := true, stopCloses := st.stopCloses + 1, pending := [] } := by
  simp [LState.doClose, h]

theorem doClose_closed (st : LState) : st.doClose.closed = true := by
  cases hc : st.closed with
  | true => rw [doClose_of_closed hc, hc]
  | false => rw [doClose_of_open hc]

theorem doClose_frame (st : LState) :
    st.doClose.wire = st.wire ∧ st.doClose.exp = st.exp ∧ st.doClose.tpls = st.tpls ∧
    st.doClose.proto = st.proto ∧ st.doClose.peerClosed = st.peerClosed := by
  cases hc : st.closed with
  | true =>
    rw [doClose_of_closed hc]
    exact ⟨rfl, rfl, rfl, rfl, rfl⟩
  | false =>
    rw [doClose_of_open hc]
    exact ⟨rfl, rfl, rfl, rfl, rfl⟩

theorem send_of_closed {st : LState} (h : st.closed = true) (time : Nat) (s : SetB) :
    st.send time s = ({ st with exp := { st.exp with seq := (st.exp.sendBuilt time s).1.seq } }, .err) := by
  simp [LState.send, h]

theorem send_of_err {st : LState} {time : Nat} {s : SetB} {q : ExpState} (h : st.closed = false)
    (hr : st.exp.sendBuilt time s = (q, .err)) : st.send time s = ({ st with exp := q }, .err) := by
  simp [LState.send, h, hr]

theorem send_of_ok {st : LState} {time : Nat} {s : SetB} {q : ExpState} {n : Nat} {w : Bytes} (h : st.closed = false)
    (hr : st.exp.sendBuilt time s = (q, .ok n w)) :
    st.send time s = ({ st with exp := q, tpls := if s.ty = .template then recordTemplates st.tpls s else st.tpls,
                                 wire := st.wire ++ [w] }, .ok n w) := by
  simp [LState.send, h, hr]

/-- the three equations as one case split, for a caller that does not know what the sequential model returns -/
theorem send_cases (st : LState) (time : Nat) (s : SetB) :
    (∃ q, st.send time s = ({ st with exp := q }, .err) ∧ q.dom = st.exp.dom ∧
      q.seq = (st.exp.sendBuilt time s).1.seq) ∨
    (∃ q n w, st.closed = false ∧ st.exp.sendBuilt time s = (q, .ok n w) ∧
      st.send time s = ({ st with exp := q, tpls := if s.ty = .template then recordTemplates st.tpls s else st.tpls,
                                   wire := st.wire ++ [w] }, .ok n w)) := by
  have hd := (st.exp.sendBuilt_seq_dom time s).1
  rcases Bool.eq_false_or_eq_true st.closed with hc | hc
  · exact .inl ⟨_, send_of_closed hc time s, rfl, rfl⟩
  · cases hr : st.exp.sendBuilt time s with
    | mk q r =>
      rw [hr] at hd
      cases r with
      | err => exact .inl ⟨q, send_of_err hc hr, hd, rfl⟩
      | ok n w => exact .inr ⟨q, n, w, hc, rfl, send_of_ok hc hr⟩

structure SendFrame (st st' : LState) : Prop where
  closed : st'.closed = st.closed
  pending : st'.pending = st.pending
  stopCloses : st'.stopCloses = st.stopCloses
  proto : st'.proto = st.proto
  peerClosed : st'.peerClosed = st.peerClosed
  dom : st'.exp.dom = st.exp.dom

theorem send_frame (st : LState) (time : Nat) (s : SetB) : SendFrame st (st.send time s).1 := by
  rcases send_cases st time s with ⟨q, h, hd, _⟩ | ⟨q, n, w, _, hsb, h⟩
  · rw [h]
    exact ⟨rfl, rfl, rfl, rfl, rfl, hd⟩
  · have hd := (st.exp.sendBuilt_seq_dom time s).1
    rw [hsb] at hd
    rw [h]
    exact ⟨rfl, rfl, rfl, rfl, rfl, hd⟩

theorem send_err_of_closed (st : LState) (time : Nat) (s : SetB) (hc : st.closed = true) :
    (st.send time s).2 = .err ∧ (st.send time s).1.wire = st.wire := by
  rw [send_of_closed hc]
  exact ⟨rfl, rfl⟩

theorem send_tpls_err (st : LState) (time : Nat) (s : SetB) (h : (st.send time s).2 = .err) :
    (st.send time s).1.tpls = st.tpls := by
  rcases send_cases st time s with ⟨q, he, _⟩ | ⟨q, n, w, _, _, he⟩
  · rw [he]
  · rw [he] at h
    cases h

theorem send_seq (st : LState) (time : Nat) (s : SetB) :
    (st.send time s).1.exp.seq = (st.exp.sendBuilt time s).1.seq := by
  rcases send_cases st time s with ⟨q, h, _, hq⟩ | ⟨q, n, w, _, hr, h⟩
  · rw [h]
    exact hq
  · rw [h, hr]

/-- what the independent parser reads in a refresh message for template `tid` with elements `ies` -/
def IsTemplateMsg (dom seq tid : Nat) (ies : List IE) (w : Bytes) : Prop :=
  ∃ m, parseMessage w = some m ∧ m.version = 10 ∧ m.length = w.length ∧ m.seq = seq ∧ m.dom = dom ∧
    m.setId = 2 ∧ m.setLen = w.length - 16 ∧
    parseTemplateRecords m.body.length m.body = some [(tid, ies.map expectedSpec)]

/-- a recorded template the exporter can describe and re-send: 16-bit id and field count, elements within
    the guard of C02, zero values exist (the codec supports the types), the message fits -/
def Refreshable (tid : Nat) (ies : List IE) : Prop :=
  tid < 65536 ∧ ies.length < 65536 ∧ (∀ ie ∈ ies, C02.SpecOK ie) ∧
  (zeroElems ies).isSome ∧ 16 + (4 + (templateRecordBytes tid ies).length) ≤ 65535

theorem tplSetOf_inv (tid : Nat) (ies : List IE) : C16.Inv (tplSetOf tid ies) := by
  simp [C16.Inv, tplSetOf, Rec.length]

theorem tplSet_wire {tid : Nat} {ies : List IE} (hr : Refreshable tid ies) {dom seq time : Nat}
    (hd : dom < 4294967296) (hs : seq < 4294967296) (ht : time < 4294967296) :
    ∃ w, createMsg (tplSetOf tid ies).updateLen dom seq time = some w ∧ IsTemplateMsg dom seq tid ies w := by
  obtain ⟨htid, hn, hspec, _, hfit⟩ := hr
  have hinv : C16.Inv (tplSetOf tid ies).updateLen := (tplSetOf_inv tid ies).updateLen
  obtain ⟨w, hw⟩ : ∃ w, createMsg (tplSetOf tid ies).updateLen dom seq time = some w :=
    ⟨_, createMsg_eq_some.2 ⟨hfit, rfl⟩⟩
  refine ⟨w, hw, ?_⟩
  have hhdr : (tplSetOf tid ies).updateLen.header = be 2 2 ++ be 2 (tplSetOf tid ies).updateLen.length := rfl
  obtain ⟨m, hp, hv, hl, _, hsq, hdm, hsid, hsl, hb⟩ :=
    C02.wire_header _ dom seq time 2 w hw hinv hhdr (by decide) hd hs ht
  refine ⟨m, hp, hv, hl, hsq, hdm, hsid, hsl, ?_⟩
  have hbody : m.body = templateRecordBytes tid ies := hb.trans (List.append_nil _)
  obtain ⟨k, hk⟩ : ∃ k, (templateRecordBytes tid ies).length = k + 1 := by
    rw [templateRecordBytes, be_two]
    exact ⟨_, rfl⟩
  rw [hbody, hk]
  exact C02.wire_template tid ies htid hn hspec k

theorem insertBy_perm (prio : Nat → Nat) (x : Nat × List IE) : ∀ l, (insertBy prio x l).Perm (x :: l)
  | [] => List.Perm.refl _
  | y :: t => by
    unfold insertBy
    split
    · exact List.Perm.refl _
    · exact ((insertBy_perm prio x t).cons y).trans (List.Perm.swap x y t)

theorem refreshOrder_perm (prio : Nat → Nat) : ∀ l, (refreshOrder prio l).Perm l
  | [] => List.Perm.refl _
  | x :: t => by
    show (insertBy prio x (refreshOrder prio t)).Perm (x :: t)
    exact (insertBy_perm prio x _).trans ((refreshOrder_perm prio t).cons x)

/-- message by message: `msgs[i]` is the refresh message of `order[i]` -/
def AllTemplateMsgs (dom seq : Nat) : List Bytes → List (Nat × List IE) → Prop
  | [], [] => True
  | w :: ws, p :: ps => IsTemplateMsg dom seq p.1 p.2 w ∧ AllTemplateMsgs dom seq ws ps
  | _, _ => False

/-- the refresher's traversal in closed form: all sets or none -/
theorem buildAll_eq : ∀ (l : List (Nat × List IE)), buildAll l =
    if l.all (fun p => (makeTemplateSet p.1 p.2).isSome) then some (l.map fun p => tplSetOf p.1 p.2) else none
  | [] => rfl
  | p :: rest => by
    rw [buildAll, buildAll_eq rest, List.all_cons, List.map_cons, makeTemplateSet_eq]
    cases (zeroElems p.2).isSome <;> cases rest.all (fun p => (makeTemplateSet p.1 p.2).isSome) <;> rfl

theorem buildAll_some {l : List (Nat × List IE)} {sets : List SetB} (h : buildAll l = some sets) :
    sets = l.map fun p => tplSetOf p.1 p.2 := by
  rw [buildAll_eq] at h
  split at h
  · exact (Option.some.inj h).symm
  · cases h

theorem buildAll_refreshable {l : List (Nat × List IE)} (h : ∀ p ∈ l, Refreshable p.1 p.2) :
    buildAll l = some (l.map fun p => tplSetOf p.1 p.2) := by
  rw [buildAll_eq, if_pos]
  refine List.all_eq_true.mpr fun p hp => ?_
  rw [makeTemplateSet_eq, if_pos (h p hp).2.2.2.1]
  rfl

theorem buildAll_none_of_mem {l : List (Nat × List IE)} {p : Nat × List IE} (hp : p ∈ l)
    (hm : makeTemplateSet p.1 p.2 = none) : buildAll l = none := by
  rw [buildAll_eq, if_neg]
  intro h
  have hp' := List.all_eq_true.mp h p hp
  rw [hm] at hp'
  cases hp'

theorem refreshTick_idle {st : LState} (prio : Nat → Nat) (hudp : st.proto = .udp) (hopen : st.closed = false)
    (hidle : st.pending = []) :
    st.refreshTick prio = match buildAll (refreshOrder prio st.tpls) with
      | none => st.doClose
      | some sets => { st with pending := sets } :=
  if_pos ⟨hudp, hopen, hidle⟩

theorem refreshStep_open {st : LState} (time : Nat) {s : SetB} {rest : List SetB} (hopen : st.closed = false)
    (hp : st.pending = s :: rest) :
    st.refreshStep time = match (st.send time s).2 with
      | .ok _ _ => { (st.send time s).1 with pending := rest }
      | .err => (st.send time s).1.doClose := by
  simp only [LState.refreshStep, hp, hopen]
  rfl

/-- DecodeAndCreateInfoElementWithValue(ie, nil) refuses the two sub-millisecond time types -/
theorem zeroValue_err_of_micro_nano (ie : IE)
    (h : ie.ty = .dateTimeMicroseconds ∨ ie.ty = .dateTimeNanoseconds) : zeroValue ie = .err := by
  unfold zeroValue
  rcases h with h | h <;> rw [h]

theorem zeroElems_none_of_mem : ∀ (ies : List IE) (ie : IE), ie ∈ ies → zeroValue ie = .err → zeroElems ies = none
  | [], _, h, _ => nomatch h
  | x :: t, ie, h, hz => by
    unfold zeroElems
    rcases List.mem_cons.mp h with rfl | ht
    · rw [hz]
    · rw [zeroElems_none_of_mem t ie ht hz]
      cases zeroValue x <;> rfl

theorem makeTemplateSet_none_of_mem (tid : Nat) (ies : List IE) (ie : IE) (h : ie ∈ ies) (hz : zeroValue ie = .err) :
    makeTemplateSet tid ies = none := by
  rw [makeTemplateSet_eq, zeroElems_none_of_mem ies ie h hz]
  rfl

theorem runS_cons (st : LState) (e : Event) (evs : List Event) : runS st (e :: evs) = runS (step st e).1 evs := rfl

theorem runS_append (st : LState) (a b : List Event) : runS st (a ++ b) = runS (runS st a) b := by
  induction a generalizing st with
  | nil => rfl
  | cons e t ih => exact ih (step st e).1

theorem step_appSend (st : LState) (time : Nat) (s : SetB) :
    step st (.appSend time s) = ((st.send time s).1, some (st.send time s).2) := rfl

theorem step_refreshTick (st : LState) (prio : Nat → Nat) :
    step st (.refreshTick prio) = (st.refreshTick prio, none) := rfl

theorem step_connCheck (st : LState) (eof : Bool) :
    step st (.connCheck eof) =
      (if st.proto = .tcp ∧ eof = true ∧ st.peerClosed = true then st.doClose else st, none) := rfl

/-- Every branch of `step` ends in one of four moves, or leaves the state alone: one SendSet on the state the event
    found (`hsend`: of the application's set, or of a set from the refresher's queue), what closeConnToCollector
    does to an open process (`hclose`), a change of the refresher's queue to part of what it was or, on an open
    process, to freshly built sets (`hqueue`), the mark that the peer closed (`hpeer`). What the four moves preserve,
    every event preserves. -/
theorem step_rule {P : LState → Prop} {st : LState} (e : Event) (h : P st)
    (hsend : ∀ time s, e = .appSend time s ∨ (e = .refreshStep time ∧ s ∈ st.pending) → P (st.send time s).1)
    (hclose : ∀ q, P q → q.closed = false →
      P { q with closed := true, stopCloses := q.stopCloses + 1, pending := [] })
    (hqueue : ∀ q l, P q →
      l ⊆ q.pending ∨ (q.closed = false ∧ ∃ o : List (Nat × List IE), l = o.map fun p => tplSetOf p.1 p.2) →
      P { q with pending := l })
    (hpeer : P { st with peerClosed := true }) : P (step st e).1 := by
  have hclose' : ∀ q, P q → P q.doClose := by
    intro q hq
    cases hc : q.closed with
    | true =>
      rw [doClose_of_closed hc]
      exact hq
    | false =>
      rw [doClose_of_open hc]
      exact hclose q hq hc
  cases e with
  | appSend time s => exact hsend time s (.inl rfl)
  | refreshTick prio =>
    simp only [step, LState.refreshTick]
    split
    next hc =>  -- an open UDP process with no refresh under way
      split
      next => exact hclose' st h  -- a recorded template cannot be rebuilt
      next sets hb => exact hqueue st sets h (.inr ⟨hc.2.1, _, buildAll_some hb⟩)
    next => exact h
  | refreshStep time =>
    simp only [step, LState.refreshStep]
    split
    next => exact h  -- nothing is queued
    next s rest hp =>
      have hs := hsend time s (.inr ⟨rfl, hp ▸ List.mem_cons_self⟩)
      split
      next => exact hqueue st [] h (.inl (List.nil_subset _))  -- closed: the queue is dropped, nothing is sent
      next =>
        split
        next =>  -- the send succeeded
          refine hqueue _ rest hs (.inl ?_)
          rw [(send_frame st time s).pending, hp]
          exact List.subset_cons_self s rest
        next => exact hclose' _ hs  -- the send failed
  | connCheck eof =>
    simp only [step]
    split
    · exact hclose' st h
    · exact h
  | peerClose => exact hpeer
  | close => exact hclose' st h

/-- what every event a schedule allows (`G`) preserves, the schedule preserves; likewise for what SendSet returns -/
theorem run_rule {P : LState → Prop} {G : Event → Prop} {O : Option SendResult → Prop}
    (hstep : ∀ st e, P st → G e → P (step st e).1 ∧ O (step st e).2) :
    ∀ (evs : List Event) (st : LState), P st → (∀ e ∈ evs, G e) → P (runS st evs) ∧ ∀ o ∈ (run st evs).2, O o
  | [], _, h, _ => ⟨h, fun _ ho => nomatch ho⟩
  | e :: rest, st, h, hg => by
    obtain ⟨h1, h2⟩ := hstep st e h (hg e List.mem_cons_self)
    obtain ⟨i1, i2⟩ := run_rule hstep rest (step st e).1 h1 (fun x hx => hg x (List.mem_cons_of_mem _ hx))
    refine ⟨i1, fun o ho => ?_⟩
    rcases List.mem_cons.mp ho with rfl | ho
    · exact h2
    · exact i2 o ho

theorem runS_rule {P : LState → Prop} (hstep : ∀ st e, P st → P (step st e).1) (evs : List Event) (st : LState)
    (h : P st) : P (runS st evs) :=
  (run_rule (G := fun _ => True) (O := fun _ => True) (fun st e h _ => ⟨hstep st e h, trivial⟩) evs st h
    (fun _ _ => trivial)).1

theorem refreshStep_emits (st : LState) (time tid : Nat) (ies : List IE) (rest : List SetB)
    (hopen : st.closed = false) (hp : st.pending = tplSetOf tid ies :: rest) (hr : Refreshable tid ies)
    (hd : st.exp.dom < 4294967296) (hs : st.exp.seq < 4294967296) (ht : time < 4294967296) :
    ∃ w q, IsTemplateMsg st.exp.dom st.exp.seq tid ies w ∧ q.seq = st.exp.seq ∧ q.dom = st.exp.dom ∧
      (step st (.refreshStep time)).1 = { st with exp := q, tpls := recordTemplates st.tpls (tplSetOf tid ies),
                                                   wire := st.wire ++ [w], pending := rest } := by
  obtain ⟨w, hc, hmsg⟩ := tplSet_wire hr hd hs ht
  have hsb := st.exp.sendBuilt_template time (tplSetOf tid ies) w rfl hc
  obtain ⟨hseq, hdom⟩ := st.exp.sent_seq_dom (tplSetOf tid ies)
  refine ⟨w, _, hmsg, hseq.trans (st.exp.advance_seq_template rfl), hdom, ?_⟩
  show st.refreshStep time = _
  rw [refreshStep_open time hopen hp, send_of_ok hopen hsb]
  rfl

theorem refreshSteps_emit (order : List (Nat × List IE)) (times : List Nat) (st : LState)
    (hl : times.length = order.length) (hr : ∀ p ∈ order, Refreshable p.1 p.2) (htm : ∀ t ∈ times, t < 4294967296)
    (hopen : st.closed = false) (hp : st.pending = order.map fun p => tplSetOf p.1 p.2)
    (hd : st.exp.dom < 4294967296) (hs : st.exp.seq < 4294967296) :
    ∃ msgs, (runS st (times.map .refreshStep)).wire = st.wire ++ msgs ∧
      AllTemplateMsgs st.exp.dom st.exp.seq msgs order ∧
      (runS st (times.map .refreshStep)).exp.seq = st.exp.seq ∧
      (runS st (times.map .refreshStep)).closed = false ∧
      (runS st (times.map .refreshStep)).pending = [] := by
  induction order generalizing times st with
  | nil =>
    cases times with
    | nil => exact ⟨[], (List.append_nil _).symm, trivial, rfl, hopen, hp⟩
    | cons => cases hl
  | cons p order ih =>
    cases times with
    | nil => cases hl
    | cons t times =>
      obtain ⟨hrp, hr⟩ := List.forall_mem_cons.mp hr
      obtain ⟨htt, htm⟩ := List.forall_mem_cons.mp htm
      obtain ⟨w, q, hmsg, hseq, hdom, hstep⟩ := refreshStep_emits st t p.1 p.2 _ hopen hp hrp hd hs htt
      have ih := ih times (step st (.refreshStep t)).1 (Nat.succ.inj hl) hr htm
      rw [List.map_cons, runS_cons]
      rw [hstep] at ih ⊢
      obtain ⟨msgs, h1, h2, h3, h4, h5⟩ := ih hopen rfl (hdom.symm ▸ hd) (hseq.symm ▸ hs)
      rw [hdom, hseq] at h2
      exact ⟨w :: msgs, h1.trans (List.append_assoc _ _ _), ⟨hmsg, h2⟩, h3.trans hseq, h4, h5⟩

theorem step_of_closed (st : LState) (e : Event) (h : st.closed = true) :
    ((step st e).1.closed = true ∧ (step st e).1.wire = st.wire) ∧
    ((step st e).2 = none ∨ (step st e).2 = some .err) := by
  constructor
  · apply step_rule (P := fun q => q.closed = true ∧ q.wire = st.wire) e ⟨h, rfl⟩
    · intro time s _
      exact ⟨by rw [(send_frame st time s).closed, h], (send_err_of_closed st time s h).2⟩
    · intro q hq hc
      rw [hq.1] at hc
      cases hc
    · exact fun q l hq _ => hq
    · exact ⟨h, rfl⟩
  · cases e with
    | appSend time s => exact .inr (congrArg some (send_err_of_closed st time s h).1)
    | _ => exact .inl rfl

def isCloseEv : Event → Bool
  | .close => true
  | _ => false

theorem run_strip_closes : ∀ (evs : List Event) (st : LState), st.closed = true →
    runS st evs = runS st (evs.filter (fun e => !isCloseEv e))
  | [], _, _ => rfl
  | e :: rest, st, h => by
    rw [runS_cons, run_strip_closes rest _ (step_of_closed st e h).1.1]
    cases e with
    | close => exact congrArg (runS · _) (doClose_of_closed h)  -- the Close call left the state as it was
    | _ => rfl  -- the event is kept

/-- further Close calls, wherever they fall after the first, change nothing -/
theorem run_extra_close : ∀ (evs₁ evs₂ : List Event) (st : LState), st.closed = true →
    runS st (evs₁ ++ .close :: evs₂) = runS st (evs₁ ++ evs₂) := by
  intro evs₁ evs₂ st h
  rw [run_strip_closes _ st h, run_strip_closes (evs₁ ++ evs₂) st h, List.filter_append, List.filter_append]
  rfl

/-- What holds of every state a schedule reaches from `LState.init`: `close(stopCh)` ran once if the process is closed
    and never otherwise, a closed process has no refresh work queued, and what is queued are template sets with the
    builders' bookkeeping (C16) right. -/
structure Reach (st : LState) : Prop where
  stop : st.stopCloses = if st.closed then 1 else 0
  idle : st.closed = true → st.pending = []
  queue : ∀ s ∈ st.pending, s.ty = .template ∧ C16.Inv s

theorem reach_init (proto : Proto) (dom : Nat) : Reach (LState.init proto dom) :=
  ⟨rfl, fun _ => rfl, fun _ hs => nomatch hs⟩

theorem step_reach (st : LState) (e : Event) (h : Reach st) : Reach (step st e).1 := by
  apply step_rule e h
  · intro time s _
    have f := send_frame st time s
    refine ⟨?_, ?_, ?_⟩
    · rw [f.stopCloses, f.closed]
      exact h.stop
    · rw [f.closed, f.pending]
      exact h.idle
    · rw [f.pending]
      exact h.queue
  · intro q hq hc
    have h1 := hq.stop
    rw [hc] at h1
    exact ⟨by simp [h1], fun _ => rfl, fun _ hx => nomatch hx⟩
  · intro q l hq hl
    refine ⟨hq.stop, fun hc => ?_, fun x hx => ?_⟩
    · rcases hl with hl | ⟨ho, _⟩
      · rw [hq.idle hc] at hl
        exact List.subset_nil.mp hl
      · rw [ho] at hc
        cases hc
    · rcases hl with hl | ⟨_, o, rfl⟩
      · exact hq.queue x (hl hx)
      · obtain ⟨p, _, rfl⟩ := List.mem_map.mp hx
        exact ⟨rfl, tplSetOf_inv p.1 p.2⟩
  · exact ⟨h.stop, h.idle, h.queue⟩

/-- `w` is the complete output of one CreateIPFIXMsg -/
def Whole (w : Bytes) : Prop := ∃ s dom seq time, createMsg s dom seq time = some w

theorem step_wire (st : LState) (e : Event) :
    (step st e).1.wire = st.wire ∨ ∃ w, Whole w ∧ (step st e).1.wire = st.wire ++ [w] := by
  apply step_rule (P := fun q => q.wire = st.wire ∨ ∃ w, Whole w ∧ q.wire = st.wire ++ [w]) e (.inl rfl)
  · intro time s _
    rcases send_cases st time s with ⟨q, h, _⟩ | ⟨q, n, w, _, hsb, h⟩
    · rw [h]
      exact .inl rfl
    · rw [h]
      exact .inr ⟨w, ⟨_, _, _, _, (ExpState.sendBuilt_ok hsb).2.1⟩, rfl⟩
  · exact fun q hq _ => hq
  · exact fun q l hq _ => hq
  · exact .inl rfl

theorem run_wire (evs : List Event) (st : LState) :
    ∃ more, (runS st evs).wire = st.wire ++ more ∧ ∀ w ∈ more, Whole w :=
  runS_rule (P := fun q => ∃ more, q.wire = st.wire ++ more ∧ ∀ w ∈ more, Whole w)
    (fun q e ⟨more, hq, hm⟩ => by
      rcases step_wire q e with h | ⟨w, hw, h⟩
      · exact ⟨more, h.trans hq, hm⟩
      · exact ⟨more ++ [w], by rw [h, hq, List.append_assoc],
          List.forall_mem_append.mpr ⟨hm, List.forall_mem_singleton.mpr hw⟩⟩)
    evs st ⟨[], (List.append_nil _).symm, fun _ h => nomatch h⟩

theorem run_frame (evs : List Event) (st : LState) :
    (runS st evs).proto = st.proto ∧ (st.peerClosed = true → (runS st evs).peerClosed = true) := by
  let P : LState → Prop := fun q => q.proto = st.proto ∧ (st.peerClosed = true → q.peerClosed = true)
  refine runS_rule (P := P) (fun q e hq => ?_) evs st ⟨rfl, id⟩
  apply step_rule (P := P) e hq
  · intro time s _
    have f := send_frame q time s
    exact ⟨f.proto.trans hq.1, fun h => f.peerClosed.trans (hq.2 h)⟩
  · exact fun q hq _ => hq
  · exact fun q l hq _ => hq
  · exact ⟨hq.1, fun _ => rfl⟩

theorem step_seq_of_ne_appSend (st : LState) (e : Event) (h : ∀ s ∈ st.pending, s.ty = .template)
    (he : ∀ time s, e ≠ .appSend time s) :
    (step st e).1.exp.seq = st.exp.seq := by
  apply step_rule (P := fun q => q.exp.seq = st.exp.seq) e rfl
  · intro time s hs
    rcases hs with rfl | ⟨_, hs⟩
    · exact absurd rfl (he time s)
    · exact (send_seq st time s).trans (st.exp.sendBuilt_template_seq time (h s hs))
  · exact fun q hq _ => hq
  · exact fun q l hq _ => hq
  · rfl

/-- what the application hands to SendSet (a set built with the builders satisfies this: C16 length_inv),
    and export times that fit the 32-bit header field -/
def GoodEvent : Event → Prop
  | .appSend time s => C16.Inv s ∧ time < 4294967296
  | .refreshStep time => time < 4294967296
  | _ => True

def WireInv (dom : Nat) (st : LState) : Prop :=
  st.exp.dom = dom ∧ st.exp.seq < 4294967296 ∧ ∀ w ∈ st.wire, C14.wellFormed dom w = true

theorem exists_be_two (b : Bytes) (h : b.length = 2) : ∃ n, n < 65536 ∧ b = be 2 n := by
  have h1 := unbe_lt b
  have h2 := be_unbe b
  rw [h] at h1 h2
  exact ⟨unbe b, h1, h2.symm⟩

theorem sent_wellFormed (st st' : ExpState) (time : Nat) (s : SetB) (n : Nat) (w : Bytes)
    (h : st.sendBuilt time s = (st', .ok n w)) (hi : C16.Inv s)
    (hs : st.seq < 4294967296) (hd : st.dom < 4294967296) (ht : time < 4294967296) :
    C14.wellFormed st.dom w = true := by
  -- the set id C08 `sent_message_parses` asks for is whatever the first two bytes of the set header say
  obtain ⟨sid, hlt, hsid⟩ := exists_be_two (s.header.take 2) (by simp [List.length_take, hi.2])
  obtain ⟨m, hp, hv, hl, _, _, hdm, _, hsl, _⟩ := C08.sent_message_parses st st' time s hi n w h sid hsid hlt hd hs ht
  have hn := (ExpState.sendBuilt_ok h).2.2.1
  simp [C14.wellFormed, hp, hv, hl, hdm, hsl, hn]

theorem send_wireInv {dom : Nat} (hd : dom < 4294967296) (st : LState) (time : Nat) (s : SetB) (h : WireInv dom st)
    (hi : C16.Inv s) (ht : time < 4294967296) : WireInv dom (st.send time s).1 := by
  obtain ⟨rfl, h2, h3⟩ := h
  refine ⟨(send_frame st time s).dom, by rw [send_seq]; exact st.exp.sendBuilt_seq_lt time s h2, ?_⟩
  rcases send_cases st time s with ⟨q, h, _⟩ | ⟨q, n, w, _, hsb, h⟩
  · rw [h]
    exact h3
  · rw [h]
    exact List.forall_mem_append.mpr ⟨h3, List.forall_mem_singleton.mpr (sent_wellFormed _ _ time s n w hsb hi h2 hd ht)⟩

theorem step_wireInv {dom : Nat} (hd : dom < 4294967296) (st : LState) (e : Event) (h : WireInv dom st) (hp : Reach st)
    (he : GoodEvent e) : WireInv dom (step st e).1 := by
  apply step_rule e h
  · intro time s hs
    rcases hs with rfl | ⟨rfl, hs⟩
    · exact send_wireInv hd st time s h he.1 he.2
    · exact send_wireInv hd st time s h (hp.queue s hs).2 he
  · exact fun q hq _ => hq
  · exact fun q l hq _ => hq
  · exact h

theorem run_wireInv {dom : Nat} (hd : dom < 4294967296) (evs : List Event) (st : LState) (h : WireInv dom st)
    (hp : Reach st) (hg : ∀ e ∈ evs, GoodEvent e) : WireInv dom (runS st evs) :=
  (run_rule (P := fun q => WireInv dom q ∧ Reach q) (O := fun _ => True)
    (fun q e hq he => ⟨⟨step_wireInv hd q e hq.1 hq.2 he, step_reach q e hq.2⟩, trivial⟩) evs st ⟨h, hp⟩ hg).1.1

theorem u16_append (x y : Bytes) (h : 2 ≤ x.length) : u16 (x ++ y) = u16 x := by
  match x, h with
  | a :: b :: t, _ => rfl

theorem wellFormed_len (dom : Nat) (w : Bytes) (h : C14.wellFormed dom w = true) :
    20 ≤ w.length ∧ u16 (w.drop 2) = w.length := by
  unfold C14.wellFormed parseMessage at h
  by_cases hlt : w.length < 20
  · rw [if_pos hlt] at h
    cases h
  · rw [if_neg hlt] at h
    simp only [Bool.and_eq_true, beq_iff_eq] at h
    exact ⟨Nat.le_of_not_lt hlt, h.1.1.2⟩

theorem splitFrames_succ (fuel : Nat) (b : Bytes) :
    C14.splitFrames (fuel + 1) b =
      if b.length < 20 then ([], b)
      else if u16 (b.drop 2) < 20 ∨ b.length < u16 (b.drop 2) then ([], b)
      else (b.take (u16 (b.drop 2)) :: (C14.splitFrames fuel (b.drop (u16 (b.drop 2)))).1,
            (C14.splitFrames fuel (b.drop (u16 (b.drop 2)))).2) := rfl

theorem splitFrames_append (fuel : Nat) (w rest : Bytes) (h20 : 20 ≤ w.length) (hu : u16 (w.drop 2) = w.length) :
    C14.splitFrames (fuel + 1) (w ++ rest) =
      (w :: (C14.splitFrames fuel rest).1, (C14.splitFrames fuel rest).2) := by
  have hdrop : (w ++ rest).drop 2 = w.drop 2 ++ rest :=
    List.drop_append_of_le_length (Nat.le_trans (by decide) h20)
  have h2 : 2 ≤ (w.drop 2).length := by
    rw [List.length_drop]
    exact Nat.le_sub_of_add_le (Nat.le_trans (by decide) h20)
  have hl : u16 ((w ++ rest).drop 2) = w.length := by
    rw [hdrop, u16_append _ _ h2, hu]
  have hle : w.length ≤ w.length + rest.length := Nat.le_add_right _ _
  rw [splitFrames_succ, hl, List.length_append, if_neg (Nat.not_lt.mpr (Nat.le_trans h20 hle)),
    if_neg (not_or.mpr ⟨Nat.not_lt.mpr h20, Nat.not_lt.mpr hle⟩), List.take_left, List.drop_left]

/-- one unit of fuel per byte is more than enough, a message having at least 20 -/
theorem splitFrames_flatten (dom : Nat) : ∀ (ws : List Bytes) (fuel : Nat), (∀ w ∈ ws, C14.wellFormed dom w = true) →
    ws.flatten.length ≤ fuel → C14.splitFrames fuel ws.flatten = (ws, [])
  | [], fuel, _, _ => by
    cases fuel <;> rfl
  | w :: rest, fuel, h, hf => by
    obtain ⟨h20, hu⟩ := wellFormed_len dom w (h w List.mem_cons_self)
    rw [List.flatten_cons, List.length_append] at hf
    cases fuel with
    | zero => exact absurd (Nat.le_trans h20 (Nat.le_trans (Nat.le_add_right _ _) hf)) (by decide)
    | succ fuel =>
      rw [List.flatten_cons, splitFrames_append fuel w _ h20 hu,
        splitFrames_flatten dom rest fuel (fun x hx => h x (List.mem_cons_of_mem _ hx)) (by omega)]

end Ipfix.Life
