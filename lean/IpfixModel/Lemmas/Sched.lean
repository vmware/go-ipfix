/-
  The scheduling invariant of the flow-aggregation process (IpfixModel/Model/Agg.lean): the expiry queue holds exactly
  one item per held flow and is a heap (`Sched`). An arrival is handled through its three branches (`ingest_cases`).
  The scan loop is read off its definition once, as a relation (`Run`, whose turns are the named cases of `Turn`;
  `scanLoop_run`, `scan_eq`); what holds of it is proved by induction on that relation: the clock and the timeouts
  stay whatever the state, and under the loop invariant there is one loop specification (`LoopSpec`, `Run.spec`),
  carried over to the scan with its deferred pushes (`scan_spec`). What is said about a scan is a projection of that.
  The operations `Op` and their effect `step`, in which the statements about reachable states are put, are defined here.
-/
import IpfixModel.Lemmas.AggMap
import IpfixModel.Lemmas.Heap
namespace Ipfix.Agg

/-- "no flow is ever stranded": the queue holds exactly one item per held flow, and is a heap -/
def Sched (s : State) : Prop :=
  (s.pq.toList.map (·.key)).Perm (s.flows.map (·.1)) ∧ (s.flows.map (·.1)).Nodup ∧
    Heap.Ordered Item.deadline s.pq

theorem Sched.keys {s : State} (h : Sched s) : (s.pq.toList.map (·.key)).Perm (s.flows.map (·.1)) := h.1
theorem Sched.nodup {s : State} (h : Sched s) : (s.flows.map (·.1)).Nodup := h.2.1
theorem Sched.heap {s : State} (h : Sched s) : Heap.Ordered Item.deadline s.pq := h.2.2

theorem Sched.pq_nodup {s : State} (h : Sched s) : (s.pq.toList.map (·.key)).Nodup := h.keys.nodup_iff.mpr h.nodup

theorem sched_init (a i : Nat) : Sched { activeT := a, inactiveT := i } := by
  refine ⟨List.Perm.refl _, List.nodup_nil, ?_⟩
  intro j _ hj
  simp at hj

theorem ingest_new_eq (s : State) (r : InRec) (h : s.find r.key = none) :
    ingest s r = { s.set r.key (create r) with
      pq := Heap.push Item.deadline s.pq
        { key := r.key, active := s.now + s.activeT, inactive := s.now + s.inactiveT } } := by
  unfold ingest
  simp only [h, set_pq]

theorem ingest_upd_eq (s : State) (r : InRec) (a : AggRec) (i : Nat) (h : s.find r.key = some a)
    (hi : s.pq.toList.findIdx? (·.key == r.key) = some i) :
    ingest s r = { s.set r.key (update r a) with
      pq := Heap.fix Item.deadline
        (s.pq.setIfInBounds i { s.pq[i]! with inactive := s.now + s.inactiveT }) i } := by
  unfold ingest
  simp only [h, set_pq, hi]

theorem ingest_upd_none_eq (s : State) (r : InRec) (a : AggRec) (h : s.find r.key = some a)
    (hi : s.pq.toList.findIdx? (·.key == r.key) = none) :
    ingest s r = s.set r.key (update r a) := by
  unfold ingest
  simp only [h, set_pq, hi]

/-- The three ways through addOrUpdateRecordInMap. `new`: no flow under the key, the record is stored
    and its item goes in with heap.Push. `upd`: a known flow whose item sits at index `i` of the queue:
    expirePriorityQueue.Update refreshes the inactive deadline and calls heap.Fix. `stranded`: a known
    flow whose item is gone from the queue (its index is -1, where heap.Fix does nothing; the invariant
    rules the case out): only the flow record changes. -/
theorem ingest_cases {motive : State → Prop} (s : State) (r : InRec)
    (new : s.find r.key = none → motive { s.set r.key (create r) with
      pq := Heap.push Item.deadline s.pq
        { key := r.key, active := s.now + s.activeT, inactive := s.now + s.inactiveT } })
    (upd : ∀ a i, s.find r.key = some a → (hi : i < s.pq.size) → s.pq[i].key = r.key →
      motive { s.set r.key (update r a) with
        pq := Heap.fix Item.deadline
          (s.pq.setIfInBounds i { s.pq[i] with inactive := s.now + s.inactiveT }) i })
    (stranded : ∀ a, s.find r.key = some a → (∀ it ∈ s.pq.toList, it.key ≠ r.key) →
      motive (s.set r.key (update r a))) :
    motive (ingest s r) := by
  cases hf : s.find r.key with
  | none =>
    rw [ingest_new_eq s r hf]
    exact new hf
  | some a =>
    cases hi : s.pq.toList.findIdx? (·.key == r.key) with
    | none =>
      rw [ingest_upd_none_eq s r a hf hi]
      refine stranded a hf fun it hit => ?_
      simpa using List.findIdx?_eq_none_iff.mp hi it hit
    | some i =>
      obtain ⟨hil, hik, _⟩ := List.findIdx?_eq_some_iff_getElem.mp hi
      have his : i < s.pq.size := by simpa using hil
      rw [ingest_upd_eq s r a i hf hi, Heap.get!_of_lt _ _ his]
      exact upd a i hf his (by simpa using hik)

theorem Sched.set {s : State} (h : Sched s) {k : Nat} (hk : k ∈ s.flows.map (·.1)) (a : AggRec) :
    Sched (s.set k a) := by
  unfold Sched
  rw [set_pq, set_keys_of_mem s k a hk]
  exact h

theorem Sched.with_pq {s : State} (h : Sched s) {q : Array Item}
    (hk : (q.toList.map (·.key)).Perm (s.pq.toList.map (·.key)))
    (ho : Heap.Ordered Item.deadline q) : Sched { s with pq := q } :=
  ⟨hk.trans h.keys, h.nodup, ho⟩

theorem keys_fix_set (q : Array Item) (i : Nat) (hi : i < q.size) (y : Item) (hy : y.key = q[i].key) :
    ((Heap.fix Item.deadline (q.setIfInBounds i y) i).toList.map (·.key)).Perm
      (q.toList.map (·.key)) := by
  refine ((Heap.fix_perm Item.deadline _ i).map _).trans ?_
  rw [Array.toList_setIfInBounds, List.map_set, hy]
  have := List.set_getElem_self (as := q.toList.map (·.key)) (i := i) (by simpa using hi)
  simp only [List.getElem_map, Array.getElem_toList] at this
  rw [this]

theorem sched_ingest (s : State) (r : InRec) (h : Sched s) : Sched (ingest s r) := by
  refine ingest_cases s r (fun hf => ?_) (fun a i hf hi hik => ?_) (fun a hf _ => ?_)
  · have hk := (find_eq_none_iff s r.key).mp hf
    unfold Sched
    dsimp only
    rw [set_keys_of_not_mem s _ _ hk, (List.perm_append_singleton _ _).nodup_iff]
    refine ⟨?_, List.nodup_cons.mpr ⟨hk, h.nodup⟩, Heap.push_ordered Item.deadline h.heap _⟩
    refine ((Heap.push_perm Item.deadline s.pq _).map _).trans ?_
    exact (h.keys.cons _).trans (List.perm_append_singleton _ _).symm
  · -- `Heap.fix_ordered` speaks of `Array.set!`, which unfolds to the model's `setIfInBounds`
    refine (h.set (mem_keys_of_find hf) _).with_pq ?_ (Heap.fix_ordered Item.deadline h.heap hi _)
    rw [set_pq]
    exact keys_fix_set _ i hi _ rfl
  · exact h.set (mem_keys_of_find hf) _

theorem ingest_new_deadlines (s : State) (r : InRec) (hnew : s.find r.key = none) :
    ∃ it ∈ (ingest s r).pq.toList, it.key = r.key ∧ it.active = s.now + s.activeT ∧
      it.inactive = s.now + s.inactiveT := by
  rw [ingest_new_eq s r hnew]
  exact ⟨_, (Heap.push_perm Item.deadline s.pq _).mem_iff.mpr List.mem_cons_self, rfl, rfl, rfl⟩

theorem ingest_existing_deadlines (s : State) (r : InRec) (h : Sched s) (it : Item)
    (hit : it ∈ s.pq.toList) (hk : it.key = r.key) :
    { it with inactive := s.now + s.inactiveT } ∈ (ingest s r).pq.toList := by
  have hkm : r.key ∈ s.flows.map (·.1) := hk ▸ h.keys.mem_iff.mp (List.mem_map_of_mem hit)
  refine ingest_cases (motive := fun t => _ ∈ t.pq.toList) s r (fun hf => ?_)
    (fun a i hf hi hik => ?_) (fun a hf hno => ?_)
  · exact absurd hkm ((find_eq_none_iff s r.key).mp hf)
  · -- keys are not repeated in the queue, so the item found under the key is `it`
    have e : s.pq[i] = it :=
      pw_inj Item.key (List.pairwise_map.mp h.pq_nodup) (Array.getElem_mem_toList _) hit (hik.trans hk.symm)
    rw [e]
    refine (Heap.fix_perm Item.deadline _ i).mem_iff.mpr ?_
    rw [Array.toList_setIfInBounds]
    exact List.mem_set (by simpa using hi) _
  · exact absurd hk (hno it hit)

theorem ingest_other_items (s : State) (r : InRec) (it : Item)
    (hit : it ∈ s.pq.toList) (hk : it.key ≠ r.key) : it ∈ (ingest s r).pq.toList := by
  refine ingest_cases (motive := fun t => it ∈ t.pq.toList) s r (fun hf => ?_)
    (fun a i hf hi hik => ?_) (fun a hf hno => ?_)
  · exact (Heap.push_perm Item.deadline s.pq _).mem_iff.mpr (List.mem_cons_of_mem _ hit)
  · refine (Heap.fix_perm Item.deadline _ i).mem_iff.mpr ?_
    rw [Array.toList_setIfInBounds]
    refine mem_list_set_of_ne _ _ (by simpa using hi) _ _ hit fun e => hk ?_
    rw [e]
    simpa using hik
  · rw [set_pq]
    exact hit

/-- both deadlines lie ahead / one of them is reached. Abbreviations: a statement that spells the conjunction or the
    disjunction out is a statement about `Fut` / `Due` -/
abbrev Fut (now : Nat) (it : Item) : Prop := now < it.active ∧ now < it.inactive
abbrev Due (now : Nat) (it : Item) : Prop := it.active ≤ now ∨ it.inactive ≤ now

theorem due_iff_not_fut (now : Nat) (it : Item) : Due now it ↔ ¬ Fut now it := by
  unfold Due Fut
  omega

theorem fut_iff_deadline (now : Nat) (it : Item) : Fut now it ↔ now < it.deadline := by
  unfold Fut Item.deadline
  split <;> omega

/-- A turn of the loop of ForAllExpiredFlowRecordsDo after which the loop goes on. The due root `it` has been popped
    (`s` has the popped queue), `a` is its flow record, and the loop goes on from `s' tp' o'`:
      orphan  no flow under the item's key (never under the invariant)
      drop    `a` is not ready and has no retry left: the flow is deleted
      retry   `a` is not ready: its retry counter goes up, the item is set aside with both deadlines from now
      expire  the callback has seen `a` and the inactive deadline has passed: the flow is deleted
      rearm   the callback has seen `a`, only the active deadline had passed: the item is set aside with a new
              active deadline
    (in the last two the callback may have reset the statistics of `a`). -/
inductive Turn (fail : Nat → Bool) (ra : Bool) (s : State) (it : Item) (tp : List Item) (o : ScanOut) :
    State → List Item → ScanOut → Prop
  | orphan : s.find it.key = none → Turn fail ra s it tp o s tp o
  | drop {a : AggRec} : s.find it.key = some a → a.ready = false → Generated.cMaxRetries ≤ a.retries →
      Turn fail ra s it tp o (s.del it.key) tp o
  | retry {a : AggRec} : s.find it.key = some a → a.ready = false → a.retries < Generated.cMaxRetries →
      Turn fail ra s it tp o (s.set it.key { a with retries := a.retries + 1 })
        (tp ++ [{ it with active := s.now + s.activeT, inactive := s.now + s.inactiveT }]) o
  | expire {a : AggRec} : s.find it.key = some a → a.ready = true → fail it.key = false → it.inactive ≤ s.now →
      Turn fail ra s it tp o ((if ra then s.set it.key (resetStats a) else s).del it.key) tp
        { o with callbacks := o.callbacks ++ [(it.key, a)] }
  | rearm {a : AggRec} : s.find it.key = some a → a.ready = true → fail it.key = false → s.now < it.inactive →
      Turn fail ra s it tp o (if ra then s.set it.key (resetStats a) else s)
        (tp ++ [{ it with active := s.now + s.activeT }]) { o with callbacks := o.callbacks ++ [(it.key, a)] }

/-- The loop as a relation between its arguments and its result. It stops when the queue is empty or its root is not
    due, and when the callback fails on the popped item, which is then set aside as it is (`abort`); otherwise it
    takes a `Turn` and goes on. -/
inductive Run (fail : Nat → Bool) (ra : Bool) : State → List Item → ScanOut → State × List Item × ScanOut → Prop
  | stop {s : State} {tp : List Item} {o : ScanOut} : s.pq.size = 0 ∨ Fut s.now s.pq[0]! → Run fail ra s tp o (s, tp, o)
  | abort {s : State} {tp : List Item} {o : ScanOut} (it : Item) {pq' : Array Item} {a : AggRec} :
      Heap.pop Item.deadline s.pq = some (it, pq') → ¬ Fut s.now s.pq[0]! → s.find it.key = some a →
      a.ready = true → fail it.key = true →
      Run fail ra s tp o
        ({ s with pq := pq' }, tp ++ [it], { o with callbacks := o.callbacks ++ [(it.key, a)], failed := true })
  | turn {s : State} {tp : List Item} {o : ScanOut} (it : Item) {pq' : Array Item} {s' : State} {tp' : List Item}
      {o' : ScanOut} {r : State × List Item × ScanOut} :
      Heap.pop Item.deadline s.pq = some (it, pq') → ¬ Fut s.now s.pq[0]! →
      Turn fail ra { s with pq := pq' } it tp o s' tp' o' → Run fail ra s' tp' o' r → Run fail ra s tp o r

section
variable {fail : Nat → Bool} {ra : Bool} {s s' : State} {it : Item} {tp tp' : List Item} {o o' : ScanOut}
  {r : State × List Item × ScanOut}

theorem Turn.pq (t : Turn fail ra s it tp o s' tp' o') : s'.pq = s.pq := by
  cases t with
  | orphan | drop => rfl
  | retry => exact set_pq ..
  | expire | rearm => exact ite_set_pq ..

theorem Turn.now (t : Turn fail ra s it tp o s' tp' o') : s'.now = s.now := by
  cases t with
  | orphan | drop => rfl
  | retry => exact set_now ..
  | expire | rearm => exact ite_set_now ..

theorem Turn.timeouts (t : Turn fail ra s it tp o s' tp' o') :
    s'.activeT = s.activeT ∧ s'.inactiveT = s.inactiveT := by
  cases t with
  | orphan | drop => exact ⟨rfl, rfl⟩
  | retry => exact ⟨set_activeT .., set_inactiveT ..⟩
  | expire | rearm => exact ⟨ite_set_activeT .., ite_set_inactiveT ..⟩

theorem Turn.find_ne (t : Turn fail ra s it tp o s' tp' o') {k : Nat} (hne : k ≠ it.key) :
    s'.find k = s.find k := by
  cases t with
  | orphan => rfl
  | drop => exact find_del_ne s _ _ hne
  | retry => exact find_set_ne s _ _ _ hne
  | expire => exact (find_del_ne _ _ _ hne).trans (find_ite_set_ne ra s _ _ _ hne)
  | rearm => exact find_ite_set_ne ra s _ _ _ hne

theorem Turn.subset (t : Turn fail ra s it tp o s' tp' o') : ∀ x ∈ tp, x ∈ tp' := by
  cases t with
  | orphan | drop | expire => exact fun _ hx => hx
  | retry | rearm => exact fun _ hx => List.mem_append_left _ hx

/-- the callback is invoked at most once, for the popped item's flow, which is ready -/
theorem Turn.callbacks (t : Turn fail ra s it tp o s' tp' o') :
    ∃ cb : Option AggRec, o'.callbacks = o.callbacks ++ cb.toList.map (it.key, ·) ∧
      ∀ a ∈ cb.toList, a.ready = true := by
  cases t with
  | orphan | drop | retry => exact ⟨none, (List.append_nil _).symm, fun _ hx => nomatch hx⟩
  | expire _ hr | rearm _ hr => exact ⟨some _, rfl, fun _ hx => List.mem_singleton.mp hx ▸ hr⟩

theorem Turn.fut (t : Turn fail ra s it tp o s' tp' o') (hA : 0 < s.activeT) (hI : 0 < s.inactiveT)
    (h : ∀ x ∈ tp, Fut s.now x) : ∀ x ∈ tp', Fut s.now x := by
  cases t with
  | orphan | drop | expire => exact h
  | retry =>
    exact List.forall_mem_append.mpr ⟨h, List.forall_mem_singleton.mpr
      ⟨Nat.lt_add_of_pos_right hA, Nat.lt_add_of_pos_right hI⟩⟩
  | rearm _ _ _ hin =>
    exact List.forall_mem_append.mpr ⟨h, List.forall_mem_singleton.mpr ⟨Nat.lt_add_of_pos_right hA, hin⟩⟩

/-- The loop is a `Run`, the fuel exceeding the queue size. The proof goes through the branches of the loop body in the
    order of the definition. -/
theorem scanLoop_run (fail : Nat → Bool) (ra : Bool) (fuel : Nat) (s : State) (tp : List Item) (o : ScanOut)
    (hsz : s.pq.size < fuel) : Run fail ra s tp o (scanLoop fail ra fuel s tp o) := by
  induction fuel generalizing s tp o with
  | zero => exact absurd hsz (Nat.not_lt_zero _)
  | succ fuel ih =>
    unfold scanLoop
    by_cases h0 : s.pq.size = 0
    · rw [if_pos h0]
      exact .stop (.inl h0)
    by_cases htop : Fut s.now s.pq[0]!
    · rw [if_neg h0, if_pos htop]
      exact .stop (.inr htop)
    rw [if_neg h0, if_neg htop]
    cases hpop : Heap.pop Item.deadline s.pq with
    | none => exact absurd ((Heap.pop_none_iff Item.deadline _).mp hpop) h0
    | some p =>
      obtain ⟨it, pq'⟩ := p
      have turn {s' tp' o'} (t : Turn fail ra { s with pq := pq' } it tp o s' tp' o') :
          Run fail ra s tp o (scanLoop fail ra fuel s' tp' o') := by
        refine .turn it hpop htop t (ih _ _ _ ?_)
        -- a turn leaves the popped queue as it is, one item shorter than the fuel allows
        rw [t.pq]
        rw [← Heap.pop_size Item.deadline hpop] at hsz
        exact Nat.lt_of_succ_lt_succ hsz
      dsimp only
      cases hfind : State.find { s with pq := pq' } it.key with
      | none => exact turn (.orphan hfind)
      | some a =>
        dsimp only
        by_cases hnr : (!a.ready) = true
        · rw [if_pos hnr]
          have hnr : a.ready = false := by simpa using hnr
          by_cases hret : a.retries + 1 > Generated.cMaxRetries
          · rw [if_pos hret]
            exact turn (.drop hfind hnr (Nat.le_of_lt_succ hret))
          · rw [if_neg hret]
            exact turn (.retry hfind hnr (Nat.lt_of_not_le fun h => hret (Nat.lt_succ_of_le h)))
        rw [if_neg hnr]
        have hr : a.ready = true := by simpa using hnr
        by_cases hfail : fail it.key = true
        · rw [if_pos hfail]
          exact .abort it hpop htop hfind hr hfail
        rw [if_neg hfail]
        have hfail : fail it.key = false := by simpa using hfail
        -- the clock and the timeout are read after the callback, which leaves them alone
        rw [ite_set_now, ite_set_activeT]
        by_cases hin : it.inactive ≤ s.now
        · rw [if_pos hin]
          exact turn (.expire hfind hr hfail hin)
        · rw [if_neg hin]
          exact turn (.rearm hfind hr hfail (Nat.lt_of_not_le hin))

theorem Run.now (h : Run fail ra s tp o r) : r.1.now = s.now := by
  induction h with
  | stop | abort => rfl
  | turn _ _ _ t _ ih => exact ih.trans t.now

theorem Run.timeouts (h : Run fail ra s tp o r) : r.1.activeT = s.activeT ∧ r.1.inactiveT = s.inactiveT := by
  induction h with
  | stop | abort => exact ⟨rfl, rfl⟩
  | turn _ _ _ t _ ih => exact ⟨ih.1.trans t.timeouts.1, ih.2.trans t.timeouts.2⟩

/-- loop invariant of `scanLoop`: queue items plus deferred pushes cover the held flows -/
structure LoopInv (s : State) (tp : List Item) : Prop where
  keys : ((s.pq.toList ++ tp).map (·.key)).Perm (s.flows.map (·.1))
  nodup : (s.flows.map (·.1)).Nodup
  heap : Heap.Ordered Item.deadline s.pq

theorem loopInv_nil : LoopInv s [] ↔ Sched s := by
  constructor
  · intro h
    exact ⟨List.append_nil s.pq.toList ▸ h.keys, h.nodup, h.heap⟩
  · intro h
    exact ⟨(List.append_nil s.pq.toList).symm ▸ h.keys, h.nodup, h.heap⟩

/-- the situation right after `it` has been popped -/
structure Popped (s : State) (it : Item) (tp : List Item) : Prop where
  keys : (it.key :: (s.pq.toList ++ tp).map (·.key)).Perm (s.flows.map (·.1))
  nodup : (s.flows.map (·.1)).Nodup
  heap : Heap.Ordered Item.deadline s.pq

theorem Popped.key_mem (h : Popped s it tp) : it.key ∈ s.flows.map (·.1) := h.keys.mem_iff.mp List.mem_cons_self

/-- keys are not repeated, so nothing of the popped item's flow is left in the queue -/
theorem Popped.others_ne (h : Popped s it tp) : ∀ x ∈ s.pq.toList, x.key ≠ it.key := by
  have hnd := h.keys.nodup_iff.mpr h.nodup
  rw [List.nodup_cons] at hnd
  intro x hx e
  apply hnd.1
  rw [← e]
  exact List.mem_map_of_mem (List.mem_append_left _ hx)

theorem Popped.set (h : Popped s it tp) (a : AggRec) : Popped (s.set it.key a) it tp := by
  have hk := set_keys_of_mem s it.key a h.key_mem
  refine ⟨?_, hk ▸ h.nodup, set_pq s it.key a ▸ h.heap⟩
  rw [set_pq, hk]
  exact h.keys

theorem Popped.ite_set (h : Popped s it tp) (c : Bool) (a : AggRec) :
    Popped (if c = true then s.set it.key a else s) it tp := by
  split
  · exact h.set a
  · exact h

theorem Popped.del (h : Popped s it tp) : LoopInv (s.del it.key) tp := by
  refine ⟨?_, ?_, h.heap⟩
  · rw [del_keys, ← h.nodup.erase_eq_filter]
    have := h.keys.erase it.key
    rwa [List.erase_cons_head] at this
  · rw [del_keys]
    exact h.nodup.filter _

theorem Popped.requeue (h : Popped s it tp) (it' : Item) (hk : it'.key = it.key) : LoopInv s (tp ++ [it']) := by
  refine ⟨?_, h.nodup, h.heap⟩
  refine List.Perm.trans ?_ h.keys
  rw [← List.append_assoc, List.map_append, List.map_cons, List.map_nil, hk]
  exact List.perm_append_singleton _ _

/-- every turn deletes the popped item's flow or sets the item aside -/
theorem Popped.turn (h : Popped s it tp) (t : Turn fail ra s it tp o s' tp' o') : LoopInv s' tp' := by
  cases t with
  | orphan hfind => exact absurd h.key_mem ((find_eq_none_iff _ _).mp hfind)
  | drop => exact h.del
  | retry => exact (h.set _).requeue _ rfl
  | expire => exact (h.ite_set ra _).del
  | rearm => exact (h.ite_set ra _).requeue _ rfl

/-- the callback invocation for item `x.1`, whose flow record is `x.2` -/
def cbOf (x : Item × AggRec) : Nat × AggRec := (x.1.key, x.2)

/-- what the loop guarantees about its result, relative to its arguments -/
structure LoopSpec (s : State) (tp : List Item) (o : ScanOut)
    (r : State × List Item × ScanOut) : Prop where
  inv : LoopInv r.1 r.2.1
  /-- the callbacks added are for distinct items of the queue (`rest`: its other items), each due and its flow
      ready, in the order of their deadlines (the heap only loses items during the loop, so every pop returns
      the least of what is left) -/
  cbs : ∃ (l : List (Item × AggRec)) (rest : List Item), r.2.2.callbacks = o.callbacks ++ l.map cbOf ∧
    s.pq.toList.Perm (l.map (·.1) ++ rest) ∧ (∀ x ∈ l, Due s.now x.1 ∧ x.2.ready = true) ∧
    l.Pairwise (fun x y => x.1.deadline ≤ y.1.deadline)
  fut : 0 < s.activeT → 0 < s.inactiveT → (∀ it ∈ tp, Fut s.now it) → r.2.2.failed = false →
    (∀ it ∈ r.2.1, Fut s.now it) ∧ (∀ it ∈ r.1.pq.toList, Fut s.now it)

theorem LoopSpec.stop (hinv : LoopInv s tp) (hq : ∀ it ∈ s.pq.toList, Fut s.now it) :
    LoopSpec s tp o (s, tp, o) where
  inv := hinv
  cbs := ⟨[], s.pq.toList, by simp, List.Perm.refl _, by simp, .nil⟩
  fut := fun _ _ htp _ => ⟨htp, hq⟩

/-- where the loop stops nothing is due: the queue is empty, or its root (hence, the queue being a heap, every item) is
    not due -/
theorem LoopInv.all_fut (h : LoopInv s tp) (hs : s.pq.size = 0 ∨ Fut s.now s.pq[0]!) :
    ∀ it ∈ s.pq.toList, Fut s.now it := by
  intro it hit
  rcases hs with h0 | htop
  · have := List.length_pos_of_mem hit
    rw [Array.length_toList, h0] at this
    exact absurd this (Nat.lt_irrefl 0)
  · rw [fut_iff_deadline] at htop ⊢
    exact Nat.lt_of_lt_of_le htop (Heap.ordered_root_min Item.deadline h.heap it hit)

/-- the item popped in a turn or at an abort was the root, which is due -/
theorem LoopInv.pop_due {pq' : Array Item} (h : LoopInv s tp) (hp : Heap.pop Item.deadline s.pq = some (it, pq'))
    (hdue : ¬ Fut s.now s.pq[0]!) : Popped { s with pq := pq' } it tp ∧ it ∈ s.pq.toList ∧ Due s.now it := by
  obtain ⟨ho, -, htop⟩ := Heap.pop_ordered Item.deadline h.heap hp
  have hperm := Heap.pop_perm Item.deadline hp
  refine ⟨⟨?_, h.nodup, ho⟩, hperm.mem_iff.mpr List.mem_cons_self, ?_⟩
  · refine List.Perm.trans ?_ h.keys
    simpa using ((hperm.append_right tp).map (·.key)).symm
  · rw [htop]
    exact (due_iff_not_fut _ _).mpr hdue

/-- A turn passes the specification on, from the rest of the loop (`ih`) to the loop as a whole. The callbacks stay in
    deadline order because nothing left in the queue precedes the popped item. -/
theorem LoopSpec.step {pq' : Array Item} (hinv : LoopInv s tp) (hpop : Heap.pop Item.deadline s.pq = some (it, pq'))
    (hdue : ¬ Fut s.now s.pq[0]!) (t : Turn fail ra { s with pq := pq' } it tp o s' tp' o')
    (ih : LoopInv s' tp' → LoopSpec s' tp' o' r) : LoopSpec s tp o r := by
  obtain ⟨hP, -, hd⟩ := hinv.pop_due hpop hdue
  have h := ih (hP.turn t)
  have hperm := Heap.pop_perm Item.deadline hpop
  have hmin := (Heap.pop_ordered Item.deadline hinv.heap hpop).2.1
  have hnow : s'.now = s.now := t.now
  obtain ⟨cb, ho, hr⟩ := t.callbacks
  exact {
    inv := h.inv
    cbs := by
      obtain ⟨l, rest, h1, h2, h3, h4⟩ := h.cbs
      rw [t.pq] at h2
      -- `it` joins the callbacks' items or the other items
      have hp : ∃ rest', (it :: (l.map (·.1) ++ rest)).Perm ((cb.toList.map (it, ·) ++ l).map (·.1) ++ rest') := by
        cases cb with
        | none => exact ⟨it :: rest, List.perm_middle.symm⟩
        | some a => exact ⟨rest, List.Perm.refl _⟩
      obtain ⟨rest', hp⟩ := hp
      refine ⟨cb.toList.map (it, ·) ++ l, rest', ?_, (hperm.trans (h2.cons it)).trans hp, ?_, ?_⟩
      · rw [h1, ho, List.map_append, List.map_map, List.append_assoc]
        rfl
      · intro x hx
        rcases List.mem_append.mp hx with h0 | h0
        · obtain ⟨a, ha, rfl⟩ := List.mem_map.mp h0
          exact ⟨hd, hr a ha⟩
        · exact ⟨hnow ▸ (h3 x h0).1, (h3 x h0).2⟩
      · refine List.pairwise_append.mpr
          ⟨List.pairwise_map.mpr (List.pairwise_of_forall fun _ _ => Nat.le_refl _), h4, ?_⟩
        intro x hx y hy
        obtain ⟨a, _, rfl⟩ := List.mem_map.mp hx
        exact hmin _ (h2.mem_iff.mpr (List.mem_append_left _ (List.mem_map_of_mem hy)))
    fut := by
      intro hA hI htp hok
      have := h.fut (t.timeouts.1 ▸ hA) (t.timeouts.2 ▸ hI) (hnow ▸ t.fut hA hI htp) hok
      rw [hnow] at this
      exact this }

theorem Run.spec (h : Run fail ra s tp o r) (hinv : LoopInv s tp) : LoopSpec s tp o r := by
  induction h with
  | stop hs => exact .stop hinv (hinv.all_fut hs)
  | abort it hpop hdue _ hr =>
    obtain ⟨hP, -, hd⟩ := hinv.pop_due hpop hdue
    refine ⟨hP.requeue it rfl,
      ⟨[(it, _)], _, rfl, Heap.pop_perm Item.deadline hpop, ?_, List.pairwise_singleton _ _⟩, ?_⟩
    · intro x hx
      rw [List.mem_singleton.mp hx]
      exact ⟨hd, hr⟩
    · intro _ _ _ hf
      cases hf
  | turn it hpop hdue t _ ih => exact .step hinv hpop hdue t ih

end

theorem foldl_push_perm (tp : List Item) (q : Array Item) :
    (tp.foldl (fun q it => Heap.push Item.deadline q it) q).toList.Perm (q.toList ++ tp) := by
  induction tp generalizing q with
  | nil => simp
  | cons x tp ih =>
    refine (ih _).trans ?_
    refine ((Heap.push_perm Item.deadline q x).append_right tp).trans ?_
    exact List.perm_middle.symm

theorem foldl_push_ordered (tp : List Item) (q : Array Item) (ho : Heap.Ordered Item.deadline q) :
    Heap.Ordered Item.deadline (tp.foldl (fun q it => Heap.push Item.deadline q it) q) :=
  List.foldlRecOn tp _ ho fun _ hq x _ => Heap.push_ordered Item.deadline hq x

/-- ForAllExpiredFlowRecordsDo is a run of the loop with nothing set aside at first, then the deferred pushes. What
    follows about a scan is read off this, without a look at `scan` or `scanLoop`. -/
theorem scan_eq (s : State) (fail : Nat → Bool) (ra : Bool) : ∃ r, Run fail ra s [] {} r ∧
    scan s fail ra = ({ r.1 with pq := r.2.1.foldl (fun q it => Heap.push Item.deadline q it) r.1.pq }, r.2.2) :=
  ⟨_, scanLoop_run fail ra _ s [] {} (Nat.lt_succ_self _), rfl⟩

theorem scan_now (s : State) (fail : Nat → Bool) (ra : Bool) : (scan s fail ra).1.now = s.now := by
  obtain ⟨r, hr, e⟩ := scan_eq s fail ra
  rw [e]
  exact hr.now

theorem scan_timeouts (s : State) (fail : Nat → Bool) (ra : Bool) :
    (scan s fail ra).1.activeT = s.activeT ∧ (scan s fail ra).1.inactiveT = s.inactiveT := by
  obtain ⟨r, hr, e⟩ := scan_eq s fail ra
  rw [e]
  exact hr.timeouts

/-- The scan as a whole meets the specification of its loop, with nothing set aside any more: the items the loop set
    aside have been pushed. -/
theorem scan_spec (s : State) (fail : Nat → Bool) (ra : Bool) (h : Sched s) :
    LoopSpec s [] {} ((scan s fail ra).1, [], (scan s fail ra).2) := by
  obtain ⟨r, hr, e⟩ := scan_eq s fail ra
  rw [e]
  have hs := hr.spec (loopInv_nil.mpr h)
  have f1 := foldl_push_perm r.2.1 r.1.pq
  refine ⟨loopInv_nil.mpr ⟨(f1.map _).trans hs.inv.keys, hs.inv.nodup, foldl_push_ordered _ _ hs.inv.heap⟩, hs.cbs,
    fun hA hI htp hok => ⟨htp, fun it hit => ?_⟩⟩
  obtain ⟨g1, g2⟩ := hs.fut hA hI htp hok
  rcases List.mem_append.mp (f1.mem_iff.mp hit) with hm | hm
  · exact g2 it hm
  · exact g1 it hm

theorem scan_callbacks (s : State) (fail : Nat → Bool) (ra : Bool) (h : Sched s) :
    ∃ (l : List (Item × AggRec)) (rest : List Item), (scan s fail ra).2.callbacks = l.map cbOf ∧
      s.pq.toList.Perm (l.map (·.1) ++ rest) ∧ (∀ x ∈ l, Due s.now x.1 ∧ x.2.ready = true) ∧
      l.Pairwise (fun x y => x.1.deadline ≤ y.1.deadline) :=
  (scan_spec s fail ra h).cbs

theorem sched_scan (s : State) (fail : Nat → Bool) (resetAfter : Bool) (h : Sched s) :
    Sched (scan s fail resetAfter).1 :=
  loopInv_nil.mp (scan_spec s fail resetAfter h).inv

/-- one operation on the aggregation process -/
inductive Op
  | record (r : InRec)
  | adv (d : Nat)
  | scan (fail : List Nat) (resetAfter : Bool)

def step (s : State) : Op → State
  | .record r => ingest s r
  | .adv d => { s with now := s.now + d }
  | .scan f ra => (scan s (fun k => f.contains k) ra).1

theorem sched_step (s : State) (op : Op) (h : Sched s) : Sched (step s op) := by
  cases op with
  | record r => exact sched_ingest s r h
  | adv d => exact h
  | scan f ra => exact sched_scan s _ ra h

theorem foldl_step_inv {P : State → Prop} (hP : ∀ s op, P s → P (step s op)) (ops : List Op) (s : State)
    (h : P s) : P (ops.foldl step s) :=
  List.foldlRecOn ops step h fun s hs op _ => hP s op hs

theorem sched_reachable (a i : Nat) (ops : List Op) :
    Sched (ops.foldl step { activeT := a, inactiveT := i }) :=
  foldl_step_inv sched_step ops _ (sched_init a i)

theorem timeouts_step (s : State) (op : Op) :
    (step s op).activeT = s.activeT ∧ (step s op).inactiveT = s.inactiveT := by
  cases op with
  | record r => exact ingest_timeouts s r
  | adv d => exact ⟨rfl, rfl⟩
  | scan f ra => exact scan_timeouts s _ ra

theorem timeouts_foldl (ops : List Op) (s : State) :
    (ops.foldl step s).activeT = s.activeT ∧ (ops.foldl step s).inactiveT = s.inactiveT :=
  foldl_step_inv (P := fun t => t.activeT = s.activeT ∧ t.inactiveT = s.inactiveT)
    (fun t op h => ⟨(timeouts_step t op).1.trans h.1, (timeouts_step t op).2.trans h.2⟩) ops s ⟨rfl, rfl⟩

/-- after a scan that was not aborted, with positive timeouts, every queued deadline is in the
future -/
theorem after_scan_future (s : State) (fail : Nat → Bool) (ra : Bool) (h : Sched s)
    (hA : 0 < s.activeT) (hI : 0 < s.inactiveT) (hok : (scan s fail ra).2.failed = false) :
    ∀ it ∈ (scan s fail ra).1.pq.toList, s.now < it.active ∧ s.now < it.inactive :=
  ((scan_spec s fail ra h).fut hA hI (fun _ hx => nomatch hx) hok).2

theorem callback_due_ready (s : State) (fail : Nat → Bool) (ra : Bool) (h : Sched s) :
    ∀ p ∈ (scan s fail ra).2.callbacks, p.2.ready = true ∧ ∃ it ∈ s.pq.toList, it.key = p.1 ∧ Due s.now it := by
  obtain ⟨l, rest, h1, h2, h3, _⟩ := scan_callbacks s fail ra h
  rw [h1]
  intro p hp
  obtain ⟨x, hx, rfl⟩ := List.mem_map.mp hp
  exact ⟨(h3 x hx).2, x.1, h2.mem_iff.mpr (List.mem_append_left _ (List.mem_map_of_mem hx)), rfl, (h3 x hx).1⟩

/-- within one scan no key is handed to the callback twice: the callbacks are for distinct items of the queue,
    which holds one item per key -/
theorem scan_callbacks_nodup (s : State) (fail : Nat → Bool) (ra : Bool) (h : Sched s) :
    ((scan s fail ra).2.callbacks.map (·.1)).Nodup := by
  obtain ⟨l, rest, h1, h2, _, _⟩ := scan_callbacks s fail ra h
  have hnd := (h2.map (·.key)).nodup_iff.mp h.pq_nodup
  rw [List.map_append, List.map_map] at hnd
  rw [h1]
  simpa [cbOf, Function.comp_def] using (List.nodup_append.mp hnd).1

theorem scan_all_future (s : State) (fail : Nat → Bool) (ra : Bool) (h : Sched s)
    (hf : ∀ it ∈ s.pq.toList, Fut s.now it) : (scan s fail ra).2.callbacks = [] := by
  obtain ⟨l, rest, h1, h2, h3, _⟩ := scan_callbacks s fail ra h
  cases l with
  | nil => exact h1
  | cons x l =>
    have hx := hf x.1 (h2.mem_iff.mpr List.mem_cons_self)
    exact absurd hx ((due_iff_not_fut _ _).mp (h3 x List.mem_cons_self).1)

end Ipfix.Agg
