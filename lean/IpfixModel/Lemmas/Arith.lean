/-
  C05: the aggregation model (IpfixModel/Model/Agg.lean: create / update / resetStats / ingest) refines the declarative
  history-level specification of IpfixModel/Spec/C05.lean.
  The fields the specification computes (`Expected`) evolve by one step function per event: `recordStep` (built from
  the per-node `nodeStep`) and `resetStep`, from `zeroE`. The specification follows them (by snoc induction: `expected`
  reads the END of the history and `modelAfter` is a left fold), and so does what the model's record shows (under the
  exporter contract the early return of aggregateRecords is never taken); `refines` puts the two together by induction
  over the history.
  One node's part of the specification is a function `nodeOf` of two plain lists, the node's records and those since
  the last reset (a suffix of them); of the contract it is used that the last record of a node is well-formed and later
  than all before it.
  Naming a sub-term. Several lemmas here are about a part of a specification or model definition that has no name there
  (a `let`, the expression of one field, a branch). Such a part is defined again under a name, word for word, and tied
  to the original by a `rfl` lemma: `nodeOf` / `nodeExpected_eq`; `maxEnd`, `leaderNode`, `commonOf`, `thrOfLn` /
  `expected_eq`; `agree` / `contract_eq`; in Lemmas/AggMap.lean `clr` / `resetStats_eq` and the two sides of
  `aggNums` (`aggNums_early`, `aggNums_late`). When the original is edited the copy has to follow: until it does, that
  `rfl` fails (with a bare "not definitionally equal") and nothing else does.
-/
import IpfixModel.Spec.C05
import IpfixModel.Lemmas.AggMap
namespace Ipfix.C05
open Agg

/-- a reset clears delta counters and throughput fields only -/
theorem reset_clears_only (a : AggRec) :
    (∀ i, isDelta i = false → (resetStats a).stats.getD i 0 = a.stats.getD i 0 ∧ (resetStats a).srcStats.getD i 0 = a.srcStats.getD i 0 ∧ (resetStats a).dstStats.getD i 0 = a.dstStats.getD i 0) ∧
    (∀ i, isDelta i = true → (resetStats a).stats.getD i 0 = 0 ∧ (resetStats a).srcStats.getD i 0 = 0 ∧ (resetStats a).dstStats.getD i 0 = 0) ∧
    (resetStats a).thr = [0, 0] ∧ (resetStats a).thrSrc = [0, 0] ∧ (resetStats a).thrDst = [0, 0] ∧
    (resetStats a).end_ = a.end_ ∧ (resetStats a).endSrc = a.endSrc ∧ (resetStats a).endDst = a.endDst ∧
    (resetStats a).corr = a.corr ∧ (resetStats a).ready = a.ready ∧ (resetStats a).start = a.start ∧
    (resetStats a).endReason = a.endReason ∧ (resetStats a).tcpState = a.tcpState ∧ (resetStats a).flowType = a.flowType := by
  rw [resetStats_eq]
  refine ⟨fun i hi => ?_, fun i hi => ?_, rfl, rfl, rfl, rfl, rfl, rfl, rfl, rfl, rfl, rfl, rfl, rfl⟩
  · simp only [clr_getD, hi, Bool.false_eq_true, if_false, and_self]
  · simp only [clr_getD, hi, if_true, and_self]

/-- flows with different keys never affect each other -/
theorem keys_independent (s : State) (r : InRec) (k : Nat) (hk : r.key ≠ k) : (ingest s r).find k = s.find k :=
  ingest_find_ne s r k hk

theorem sinceReset_record (h : List Ev) (r : InRec) : sinceReset (h ++ [.record r]) = sinceReset h ++ [.record r] := by
  simp [sinceReset, List.foldl_append]

theorem sinceReset_reset (h : List Ev) : sinceReset (h ++ [.reset]) = [] := by
  simp [sinceReset, List.foldl_append]

theorem recordsOf_append (fills : InRec → Bool) (h g : List Ev) :
    recordsOf fills (h ++ g) = recordsOf fills h ++ recordsOf fills g := by
  simp [recordsOf, List.filterMap_append]

theorem recordsOf_record (fills : InRec → Bool) (h : List Ev) (r : InRec) :
    recordsOf fills (h ++ [.record r]) = recordsOf fills h ++ (if fills r then [r] else []) := by
  rw [recordsOf_append]
  congr 1
  by_cases hf : fills r <;> simp [recordsOf, hf]

theorem recordsOf_reset (fills : InRec → Bool) (h : List Ev) :
    recordsOf fills (h ++ [.reset]) = recordsOf fills h := by
  rw [recordsOf_append]
  simp [recordsOf]

theorem allRecords_record (h : List Ev) (r : InRec) : allRecords (h ++ [.record r]) = allRecords h ++ [r] := by
  simp [allRecords, List.filterMap_append]

theorem allRecords_reset (h : List Ev) : allRecords (h ++ [.reset]) = allRecords h := by
  simp [allRecords, List.filterMap_append]

theorem recordsOf_eq_filter (fills : InRec → Bool) (h : List Ev) :
    recordsOf fills h = (allRecords h).filter fills := by
  unfold recordsOf allRecords
  rw [List.filter_filterMap]
  congr 1
  funext e
  cases e with
  | reset => rfl
  | record r => simp only [Option.filter_some]

theorem sinceReset_suffix (h : List Ev) : sinceReset h <:+ h := by
  induction h using List.snoc_induction with
  | nil => exact List.suffix_refl _
  | snoc l e ih =>
    cases e with
    | reset =>
      rw [sinceReset_reset]
      exact List.nil_suffix
    | record r =>
      rw [sinceReset_record]
      exact List.suffix_append_self_iff.mpr ih

theorem recordsOf_sinceReset_suffix (fills : InRec → Bool) (h : List Ev) :
    recordsOf fills (sinceReset h) <:+ recordsOf fills h :=
  (sinceReset_suffix h).filterMap _

/-- `nodeExpected` as a function of the node's records (all / since the last reset) -/
def nodeOf (all recent : List InRec) : NodeExp :=
  match all.getLast? with
  | none => { stats := zeros nStats, end_ := 0, thr := [0, 0] }
  | some last =>
    let prev := all.dropLast.getLast?
    let prevEnd := match prev with | some p => p.end_ | none => last.start
    let prevTot (i : Nat) := match prev with | some p => p.stats.getD i 0 | none => 0
    { stats := (List.range nStats).map fun i =>
        if isDelta i then (recent.map (·.stats.getD i 0)).sum % u64 else last.stats.getD i 0,
      end_ := last.end_,
      thr := if recent.isEmpty then [0, 0]
             else [thrOf (last.stats.getD iOctetTotal 0) (prevTot iOctetTotal) last.end_ prevEnd,
                   thrOf (last.stats.getD iRevOctetTotal 0) (prevTot iRevOctetTotal) last.end_ prevEnd] }

theorem nodeExpected_eq (fills : InRec → Bool) (h : List Ev) :
    nodeExpected fills h = nodeOf (recordsOf fills h) (recordsOf fills (sinceReset h)) := rfl

/-- the end time of the node's previous record as aggregateRecords reads it off the stored record: an end
    time of 0 stands for "no record yet" and the flow's start is taken -/
def prevEndOf (r : InRec) (st : NodeExp) : Nat := if st.end_ == 0 then r.start else st.end_

/-- what a record of the node does to the node's fields -/
def nodeStep (r : InRec) (st : NodeExp) : NodeExp :=
  { stats := updNode st.stats r.stats, end_ := r.end_,
    thr := [thrOf (r.stats.getD iOctetTotal 0) (st.stats.getD iOctetTotal 0) r.end_ (prevEndOf r st),
            thrOf (r.stats.getD iRevOctetTotal 0) (st.stats.getD iRevOctetTotal 0) r.end_ (prevEndOf r st)] }

def nodeReset (st : NodeExp) : NodeExp := { stats := clr st.stats, end_ := st.end_, thr := [0, 0] }

def nodeZero : NodeExp := { stats := zeros nStats, end_ := 0, thr := [0, 0] }

/-- the per-record part of the exporter contract that the refinement uses (`contractNode` also asks `end_ < 2^32`) -/
def goodRec (r : InRec) : Prop := r.start < r.end_ ∧ r.stats.length = nStats ∧ ∀ x ∈ r.stats, x < u64

theorem nodeOf_snoc (all recent : List InRec) (r : InRec) :
    nodeOf (all ++ [r]) recent =
      { stats := (List.range nStats).map fun i =>
          if isDelta i then (recent.map (·.stats.getD i 0)).sum % u64 else r.stats.getD i 0,
        end_ := r.end_,
        thr := if recent.isEmpty then [0, 0]
               else [thrOf (r.stats.getD iOctetTotal 0) (match all.getLast? with | some p => p.stats.getD iOctetTotal 0 | none => 0) r.end_
                       (match all.getLast? with | some p => p.end_ | none => r.start),
                     thrOf (r.stats.getD iRevOctetTotal 0) (match all.getLast? with | some p => p.stats.getD iRevOctetTotal 0 | none => 0) r.end_
                       (match all.getLast? with | some p => p.end_ | none => r.start)] } := by
  unfold nodeOf
  simp only [List.getLast?_append, List.getLast?_singleton, Option.some_or, List.dropLast_concat]

theorem nodeOf_stats_length (all recent : List InRec) : (nodeOf all recent).stats.length = nStats := by
  unfold nodeOf
  split <;> simp [zeros]

theorem nodeOf_end (all recent : List InRec) :
    (nodeOf all recent).end_ = match all.getLast? with | some p => p.end_ | none => 0 := by
  unfold nodeOf
  cases all.getLast? <;> rfl

/-- `recent` is a suffix of `all` in every use: a node without records has had none since the last reset -/
theorem nodeOf_stats (all recent : List InRec) (hsuf : recent <:+ all) :
    (nodeOf all recent).stats = (List.range nStats).map fun i =>
      if isDelta i then (recent.map (·.stats.getD i 0)).sum % u64
      else match all.getLast? with | some p => p.stats.getD i 0 | none => 0 := by
  unfold nodeOf
  cases hl : all.getLast? with
  | some p => rfl
  | none =>
    rw [List.getLast?_eq_none_iff] at hl
    subst hl
    rw [List.suffix_nil.mp hsuf]
    rfl

theorem nodeOf_step (all recent : List InRec) (r : InRec) (hg : goodRec r) (hgood : ∀ p ∈ all, goodRec p)
    (hsuf : recent <:+ all) : nodeOf (all ++ [r]) (recent ++ [r]) = nodeStep r (nodeOf all recent) := by
  rw [nodeOf_snoc]
  unfold nodeStep prevEndOf updNode
  rw [nodeOf_stats all recent hsuf, nodeOf_end, hg.2.1]
  simp only [NodeExp.mk.injEq, true_and, getD_range_map]
  refine ⟨?_, ?_⟩
  · apply List.map_congr_left
    intro i hi
    rw [if_pos (List.mem_range.mp hi)]
    by_cases hd : isDelta i
    · rw [if_pos hd, if_pos hd, if_pos hd, List.map_append, List.sum_append, Nat.add_mod_mod, Nat.add_comm]
      rfl
    · rw [if_neg hd, if_neg hd]
  · have hne : (recent ++ [r]).isEmpty = false := by simp
    have h2 : iOctetTotal < nStats ∧ isDelta iOctetTotal = false := by decide
    have h6 : iRevOctetTotal < nStats ∧ isDelta iRevOctetTotal = false := by decide
    simp only [hne, h2, h6, if_true, Bool.false_eq_true, if_false]
    cases hl : all.getLast? with
    | none => rfl
    | some p =>
      have := (hgood p (List.mem_of_getLast? hl)).1
      have hp0 : (p.end_ == 0) = false := by simp; omega
      simp only [hp0, Bool.false_eq_true, if_false]

theorem chain_snoc (f : InRec × InRec → Bool) : ∀ (rs : List InRec) (r : InRec),
    ((rs ++ [r]).zip ((rs ++ [r]).drop 1)).all f = true →
    (rs.zip (rs.drop 1)).all f = true ∧ ∀ p, rs.getLast? = some p → f (p, r) = true
  | [], r, _ => by simp
  | [x], r, h => by simpa using h
  | x :: y :: t, r, h => by
    have ih := chain_snoc f (y :: t) r
    simp only [List.cons_append, List.drop_succ_cons, List.drop_zero, List.zip_cons_cons, List.all_cons,
      Bool.and_eq_true] at h ih ⊢
    have ih' := ih h.2
    refine ⟨⟨h.1, ih'.1⟩, ?_⟩
    intro p hp
    apply ih'.2
    simpa [List.getLast?_cons_cons] using hp

theorem contractNode_good (rs : List InRec) (hc : contractNode rs = true) : ∀ r ∈ rs, goodRec r := by
  intro r hr
  unfold contractNode at hc
  simp only [Bool.and_eq_true, List.all_eq_true] at hc
  have := hc.1 r hr
  simp only [decide_eq_true_eq, beq_iff_eq] at this
  exact ⟨this.1.1.1, this.1.1.2, this.1.2⟩

theorem contractNode_snoc (rs : List InRec) (r : InRec) (hc : contractNode (rs ++ [r]) = true) :
    contractNode rs = true ∧ goodRec r ∧ ∀ p, rs.getLast? = some p → p.end_ < r.end_ := by
  have hg := contractNode_good _ hc r (by simp)
  unfold contractNode at hc ⊢
  simp only [Bool.and_eq_true] at hc ⊢
  have h2 := chain_snoc _ rs r hc.2
  refine ⟨⟨?_, h2.1⟩, hg, ?_⟩
  · have := hc.1
    simp only [List.all_append, Bool.and_eq_true] at this
    exact this.1
  · intro p hp
    have := h2.2 p hp
    simp only [Bool.and_eq_true, decide_eq_true_eq] at this
    exact this.1

theorem contractNode_snoc_lt (rs : List InRec) : ∀ r, contractNode (rs ++ [r]) = true → ∀ x ∈ rs, x.end_ < r.end_ := by
  induction rs using List.snoc_induction with
  | nil =>
    intro r _ x hx
    cases hx
  | snoc l q ih =>
    intro r hc x hx
    have ⟨hc', _, hlt⟩ := contractNode_snoc _ r hc
    have hq : q.end_ < r.end_ := hlt q List.getLast?_concat
    rcases List.mem_append.mp hx with hx | hx
    · exact Nat.lt_trans (ih q hc' x hx) hq
    · rw [List.mem_singleton.mp hx]
      exact hq

theorem nodeExpected_record (fills : InRec → Bool) (h : List Ev) (r : InRec)
    (hc : contractNode (recordsOf fills h ++ if fills r then [r] else []) = true) :
    nodeExpected fills (h ++ [.record r]) =
      if fills r then nodeStep r (nodeExpected fills h) else nodeExpected fills h := by
  rw [nodeExpected_eq, nodeExpected_eq, sinceReset_record, recordsOf_record, recordsOf_record]
  cases hf : fills r
  · simp
  rw [hf] at hc
  simp only [if_true] at hc ⊢
  have ⟨hc', hg, _⟩ := contractNode_snoc _ r hc
  exact nodeOf_step _ _ r hg (contractNode_good _ hc') (recordsOf_sinceReset_suffix fills h)

theorem nodeExpected_reset (fills : InRec → Bool) (h : List Ev) :
    nodeExpected fills (h ++ [.reset]) = nodeReset (nodeExpected fills h) := by
  rw [nodeExpected_eq, nodeExpected_eq, sinceReset_reset, recordsOf_reset]
  generalize recordsOf fills (sinceReset h) = recent
  unfold nodeOf
  cases (recordsOf fills h).getLast? with
  | none => rfl
  | some p =>
    unfold nodeReset
    simp only [clr_range_map, NodeExp.mk.injEq, true_and]
    refine ⟨?_, rfl⟩
    apply List.map_congr_left
    intro i _
    cases isDelta i <;> rfl

def srcN (n : Nums) : NodeExp := { stats := n.srcStats, end_ := n.endSrc, thr := n.thrSrc }
def dstN (n : Nums) : NodeExp := { stats := n.dstStats, end_ := n.endDst, thr := n.thrDst }

/-- the flags `update` hands to `aggregate` (`update_eq`) -/
theorem fills_eq (r : InRec) :
    fillsSrc r = (!corrRequired r.flowType r.corr || fromSrc r.corr) ∧
    fillsDst r = (!corrRequired r.flowType r.corr || !fromSrc r.corr) := by
  unfold fillsSrc fillsDst
  cases corrRequired r.flowType r.corr
  · exact ⟨rfl, rfl⟩
  · exact ⟨rfl, rfl⟩

theorem update_nums (r : InRec) (a : AggRec) :
    (update r a).nums = aggNums r a.nums (fillsSrc r) (fillsDst r) := by
  rw [update_eq, (fills_eq r).1, (fills_eq r).2, ← correlated_nums r a]
  rfl

/-- what an aggregated record shows of the fields the specification computes -/
def shown (n : Nums) : Expected :=
  { end_ := n.end_, src := srcN n, dst := dstN n, common := n.stats, thr := n.thr }

/-- what one record does to the fields the specification computes; `fs`, `fd`: the record counts for the
    source node, the destination node. Each node it counts for takes a `nodeStep`; a record that is the
    latest so far hands the common delta counters and throughput to its node (the destination node when
    it counts for both) and raises the common totals -/
def recordStep (r : InRec) (fs fd : Bool) (e : Expected) : Expected :=
  let src := if fs then nodeStep r e.src else e.src
  let dst := if fd then nodeStep r e.dst else e.dst
  let ln := if fd then dst else src
  { end_ := max e.end_ r.end_, src := src, dst := dst,
    common := (List.range nStats).map fun i =>
      if r.end_ ≥ e.end_ then
        (if isDelta i then ln.stats.getD i 0 else max (e.common.getD i 0) (r.stats.getD i 0))
      else e.common.getD i 0,
    thr := if r.end_ ≥ e.end_ then ln.thr else e.thr }

def resetStep (e : Expected) : Expected :=
  { e with src := nodeReset e.src, dst := nodeReset e.dst, common := clr e.common, thr := [0, 0] }

def zeroE : Expected :=
  { end_ := 0, src := nodeZero, dst := nodeZero, common := zeros nStats, thr := [0, 0] }

theorem shown_reset (a : AggRec) : shown (resetStats a).nums = resetStep (shown a.nums) := rfl

theorem max_ite (x y : Nat) : (if x < y then y else x) = max x y := by
  by_cases h : x < y
  · rw [if_pos h, Nat.max_eq_right (Nat.le_of_lt h)]
  · rw [if_neg h, Nat.max_eq_left (Nat.le_of_not_lt h)]

/-- aggregateRecords reads the previous end time off the node the record counts for, the destination node when it
    counts for both -/
theorem prevEnd_eq (r : InRec) (a : AggRec) (fs fd : Bool) (hfill : fs = true ∨ fd = true) :
    prevEnd r a fs fd = prevEndOf r (if fd then dstN a.nums else srcN a.nums) := by
  cases fd
  · cases fs
    · simp at hfill
    · rfl
  · rfl

/-- aggregateRecords past its early return is a `recordStep`. The throughput is computed once, from the
    destination node's previous record when the record counts for that node, and written to every node
    the record counts for: hence `heq` -/
theorem aggNums_step (r : InRec) (a : AggRec) (fs fd : Bool) (hfill : fs = true ∨ fd = true)
    (hlen : r.stats.length = nStats)
    (hp : prevEndOf r (if fd then dstN a.nums else srcN a.nums) < r.end_)
    (heq : fs = true → fd = true → srcN a.nums = dstN a.nums) :
    shown (aggNums r a.nums fs fd) = recordStep r fs fd (shown a.nums) := by
  rw [aggNums_late r a fs fd (prevEnd_eq r a fs fd hfill ▸ hp)]
  -- `dsimp`, not `simp`: the latter leaves `(shown a.nums).src.end_` inside the `Decidable` instances
  dsimp only [shown, recordStep, srcN, dstN, nodeStep, prevEndOf, thrOf, prevEnd, AggRec.nums]
  simp only [hlen, max_ite, ← Nat.max_def]
  cases fd
  · have hfs : fs = true := by simpa using hfill
    subst hfs
    simp only [if_true, Bool.false_eq_true, if_false]
  · cases fs
    · simp only [if_true, Bool.false_eq_true, if_false]
    · have heq := heq rfl rfl
      simp only [srcN, dstN, AggRec.nums, NodeExp.mk.injEq] at heq
      simp only [if_true, heq.1, heq.2.1]

theorem aggNums_end (r : InRec) (n : Nums) (fs fd : Bool) :
    (aggNums r n fs fd).end_ = max n.end_ r.end_ := by
  unfold aggNums
  simp only [apply_ite Nums.end_, ite_self]
  exact Nat.max_def.symm

def stepEv (a : AggRec) (e : Ev) : AggRec := match e with | .record r => update r a | .reset => resetStats a

theorem modelAfter_snoc (h : List Ev) (e : Ev) (hne : h ≠ []) :
    modelAfter (h ++ [e]) = (modelAfter h).map (fun a => stepEv a e) := by
  cases h with
  | nil => exact absurd rfl hne
  | cons x t =>
    cases x with
    | reset => rfl
    | record r =>
      simp only [List.cons_append, modelAfter, List.foldl_append, List.foldl_cons, List.foldl_nil, Option.map_some]
      cases e <;> rfl

theorem modelAfter_ind {P : List Ev → AggRec → Prop}
    (first : ∀ r, P [.record r] (create r))
    (step : ∀ h a e, modelAfter h = some a → P h a → P (h ++ [e]) (stepEv a e)) :
    ∀ h a, modelAfter h = some a → P h a := by
  intro h
  induction h using List.snoc_induction with
  | nil =>
    intro a hm
    cases hm
  | snoc l e ih =>
    intro a hm
    cases l with
    | nil =>
      cases e with
      | reset => cases hm
      | record r =>
        cases hm
        exact first r
    | cons x t =>
      rw [modelAfter_snoc _ _ (List.cons_ne_nil x t)] at hm
      obtain ⟨a', hl, rfl⟩ := Option.map_eq_some_iff.mp hm
      exact step _ a' e hl (ih a' hl)

theorem fills_or (r : InRec) : fillsSrc r = true ∨ fillsDst r = true := by
  unfold fillsSrc fillsDst
  cases corrRequired r.flowType r.corr <;> cases fromSrc r.corr <;> simp

theorem fills_both_iff (r : InRec) :
    fillsSrc r = true ∧ fillsDst r = true ↔ corrRequired r.flowType r.corr = false := by
  unfold fillsSrc fillsDst
  cases corrRequired r.flowType r.corr <;> cases fromSrc r.corr <;> simp

theorem nodeExpected_congr (f g : InRec → Bool) (h : List Ev) (hfg : ∀ x ∈ allRecords h, f x = g x) :
    nodeExpected f h = nodeExpected g h := by
  have hsuf : allRecords (sinceReset h) <:+ allRecords h := (sinceReset_suffix h).filterMap _
  simp only [nodeExpected_eq, recordsOf_eq_filter]
  rw [List.filter_congr hfg, List.filter_congr fun x hx => hfg x (hsuf.subset hx)]

/-- all records agree on `corrRequired` (third part of the contract) -/
def agree (rs : List InRec) : Bool :=
  match rs with
  | [] => true
  | r :: t => t.all fun x => corrRequired x.flowType x.corr == corrRequired r.flowType r.corr

theorem contract_eq (h : List Ev) : contract h =
    (contractNode (recordsOf fillsSrc h) && contractNode (recordsOf fillsDst h) && agree (allRecords h)) := rfl

theorem agree_snoc (rs : List InRec) (x : InRec) (h : agree (rs ++ [x]) = true) :
    agree rs = true ∧ ∀ y ∈ rs, corrRequired y.flowType y.corr = corrRequired x.flowType x.corr := by
  cases rs with
  | nil => simp [agree]
  | cons r t =>
    simp only [agree, List.cons_append, List.all_append, List.all_cons, List.all_nil, Bool.and_true,
      Bool.and_eq_true, beq_iff_eq, List.all_eq_true] at h ⊢
    refine ⟨h.1, ?_⟩
    intro y hy
    rw [List.mem_cons] at hy
    rcases hy with hy | hy
    · subst hy
      exact h.2.symm
    · rw [h.1 y hy, h.2]

theorem contract_reset (h : List Ev) : contract (h ++ [.reset]) = contract h := by
  simp only [contract_eq, recordsOf_reset, allRecords_reset]

theorem contract_record (h : List Ev) (r : InRec) (hc : contract (h ++ [.record r]) = true) :
    contract h = true ∧
    contractNode (recordsOf fillsSrc h ++ if fillsSrc r then [r] else []) = true ∧
    contractNode (recordsOf fillsDst h ++ if fillsDst r then [r] else []) = true ∧
    ∀ y ∈ allRecords h, corrRequired y.flowType y.corr = corrRequired r.flowType r.corr := by
  simp only [contract_eq, recordsOf_record, allRecords_record, Bool.and_eq_true] at hc ⊢
  have hag := agree_snoc _ _ hc.2
  have pre : ∀ (rs : List InRec) (c : Bool), contractNode (rs ++ if c then [r] else []) = true →
      contractNode rs = true := by
    intro rs c h
    cases c
    · simpa using h
    · exact (contractNode_snoc _ _ h).1
  exact ⟨⟨⟨pre _ _ hc.1.1, pre _ _ hc.1.2⟩, hag.1⟩, hc.1.1, hc.1.2, hag.2⟩

theorem prevEndOf_lt (fills : InRec → Bool) (h : List Ev) (r : InRec)
    (hc : contractNode (recordsOf fills h ++ [r]) = true) :
    prevEndOf r (nodeExpected fills h) < r.end_ := by
  have ⟨_, hg, hlt⟩ := contractNode_snoc _ r hc
  rw [nodeExpected_eq]
  unfold prevEndOf
  rw [nodeOf_end]
  cases hl : (recordsOf fills h).getLast? with
  | none => exact hg.1
  | some p =>
    simp only
    split
    · exact hg.1
    · exact hlt p hl

theorem getD_lt_u64 (l : List Nat) (hl : ∀ x ∈ l, x < u64) (i : Nat) : l.getD i 0 < u64 := by
  rw [List.getD_eq_getElem?_getD]
  cases h : l[i]? with
  | none => decide
  | some x => exact hl x (List.mem_of_getElem? h)

theorem thrOf_zero (x e s : Nat) (hx : x < u64) : thrOf x 0 e s = (x * 8 % u64) / (e - s) := by
  unfold thrOf
  rw [Nat.sub_zero, Nat.add_mod_right, Nat.mod_eq_of_lt hx]

theorem nodeStep_zero (r : InRec) (hg : goodRec r) :
    nodeStep r nodeZero =
      { stats := r.stats, end_ := r.end_,
        thr := [(r.stats.getD iOctetTotal 0 * 8 % u64) / (r.end_ - r.start),
                (r.stats.getD iRevOctetTotal 0 * 8 % u64) / (r.end_ - r.start)] } := by
  unfold nodeStep nodeZero prevEndOf
  simp only [zeros_getD, beq_self_eq_true, if_true, thrOf_zero _ _ _ (getD_lt_u64 _ hg.2.2 _), NodeExp.mk.injEq,
    and_true]
  unfold updNode
  conv => rhs; rw [← range_map_getD_self r.stats]
  apply List.map_congr_left
  intro i _
  simp only [zeros_getD, Nat.add_zero, Nat.mod_eq_of_lt (getD_lt_u64 _ hg.2.2 i), ite_self]

theorem shown_create (r : InRec) (hg : goodRec r) :
    shown (create r).nums = recordStep r (fillsSrc r) (fillsDst r) zeroE := by
  -- A node the record counts for takes `nodeStep r nodeZero`: the record's own statistics and the throughput since
  -- the flow's start (`nodeStep_zero`), which is what `create` writes there (`hnodes`). Every end time is ≥ 0, so the
  -- record is the latest: the common fields follow a node that took the step (`hln`), the totals are `max 0 x = x`.
  have h1 : r.end_ > r.start := hg.1
  have hnodes : srcN (create r).nums = (if fillsSrc r then nodeStep r nodeZero else nodeZero) ∧
      dstN (create r).nums = (if fillsDst r then nodeStep r nodeZero else nodeZero) := by
    rw [nodeStep_zero r hg]
    unfold create srcN dstN AggRec.nums fillsSrc fillsDst nodeZero
    simp only [h1, if_true, hg.2.1]
    cases corrRequired r.flowType r.corr <;> cases fromSrc r.corr <;> exact ⟨rfl, rfl⟩
  have hln : (if fillsDst r then (if fillsDst r then nodeStep r nodeZero else nodeZero)
      else (if fillsSrc r then nodeStep r nodeZero else nodeZero)) = nodeStep r nodeZero := by
    rcases fills_or r with hf | hf
    · cases fillsDst r <;> simp [hf]
    · simp [hf]
  simp only [shown, recordStep, zeroE, hnodes.1, hnodes.2, hln, Nat.zero_le, ge_iff_le, if_true,
    Expected.mk.injEq, true_and]
  rw [nodeStep_zero r hg]
  refine ⟨(Nat.zero_max _).symm, ?_, ?_⟩
  · conv => lhs; rw [show (create r).nums.stats = r.stats from rfl, ← range_map_getD_self r.stats, hg.2.1]
    apply List.map_congr_left
    intro i _
    simp only [zeros_getD, Nat.zero_max, ite_self]
  · simp only [create, AggRec.nums, if_pos h1]

theorem goodRec_of_contract (l : List Ev) (r : InRec) (hc : contract (l ++ [.record r]) = true) : goodRec r := by
  have ⟨_, hs, hd, _⟩ := contract_record l r hc
  rcases fills_or r with hf | hf
  · simp only [hf, if_true] at hs
    exact (contractNode_snoc _ _ hs).2.1
  · simp only [hf, if_true] at hd
    exact (contractNode_snoc _ _ hd).2.1

def maxEnd (rs : List InRec) (m : Nat) : Nat := rs.foldl (fun m r => max m r.end_) m

theorem maxEnd_snoc (rs : List InRec) (m : Nat) (r : InRec) : maxEnd (rs ++ [r]) m = max (maxEnd rs m) r.end_ := by
  simp [maxEnd, List.foldl_append]

theorem end_inv (h : List Ev) (a : AggRec) (hm : modelAfter h = some a) : a.end_ = maxEnd (allRecords h) 0 := by
  refine modelAfter_ind (P := fun h a => a.end_ = maxEnd (allRecords h) 0) ?_ ?_ h a hm
  · intro r
    exact (Nat.zero_max _).symm
  · intro h a e _ ih
    cases e with
    | reset =>
      rw [allRecords_reset, ← ih]
      rfl
    | record r =>
      rw [allRecords_record, maxEnd_snoc, ← ih]
      show (update r a).nums.end_ = _
      rw [update_nums, aggNums_end]
      rfl

set_option linter.unusedVariables false in
/-- the aggregated record carries the latest end time (holds even without the contract) -/
theorem end_latest (h : List Ev) (a : AggRec) (hc : contract h = true) (hm : modelAfter h = some a) :
    a.end_ = (expected h).end_ := end_inv h a hm

/-- `leaders` in step with `maxEnd`: a record is kept when it attains the running maximum, which it then raises -/
theorem leaders_cons (x : InRec) (t : List InRec) (m : Nat) :
    leaders (x :: t) m = (if x.end_ ≥ m then [x] else []) ++ leaders t (max m x.end_) := by
  rw [leaders]
  by_cases hx : x.end_ ≥ m
  · rw [if_pos hx, if_pos hx, Nat.max_eq_right hx]
    rfl
  · rw [if_neg hx, if_neg hx, Nat.max_eq_left (Nat.le_of_not_ge hx)]
    rfl

theorem leaders_snoc : ∀ (rs : List InRec) (m : Nat) (r : InRec),
    leaders (rs ++ [r]) m = leaders rs m ++ (if r.end_ ≥ maxEnd rs m then [r] else [])
  | [], m, r => by simp [leaders, maxEnd]
  | x :: t, m, r => by
    rw [List.cons_append, leaders_cons, leaders_cons, leaders_snoc t, List.append_assoc]
    rfl

theorem leaders_getLast (rs : List InRec) :
    ∀ x, (leaders rs 0).getLast? = some x → x ∈ rs ∧ x.end_ = maxEnd rs 0 := by
  induction rs using List.snoc_induction with
  | nil =>
    intro x hx
    cases hx
  | snoc l r ih =>
    intro x hx
    rw [leaders_snoc] at hx
    rw [maxEnd_snoc]
    by_cases hr : r.end_ ≥ maxEnd l 0
    · rw [if_pos hr, List.getLast?_concat] at hx
      cases hx
      exact ⟨List.mem_concat_self, by omega⟩
    · rw [if_neg hr, List.append_nil] at hx
      have ⟨hm, he⟩ := ih x hx
      exact ⟨List.mem_append_left _ hm, by omega⟩

def leaderNode (h : List Ev) : Option NodeExp :=
  (leaders (allRecords h) 0).getLast?.map fun l => if fillsDst l then nodeExpected fillsDst h else nodeExpected fillsSrc h

def commonOf (ln : Option NodeExp) (lead : List InRec) : List Nat :=
  (List.range nStats).map fun i =>
    if isDelta i then (match ln with | some n => n.stats.getD i 0 | none => 0)
    else lead.foldl (fun m r => max m (r.stats.getD i 0)) 0

def thrOfLn (ln : Option NodeExp) : List Nat := match ln with | some n => n.thr | none => [0, 0]

theorem expected_eq (h : List Ev) : expected h =
    { end_ := maxEnd (allRecords h) 0, src := nodeExpected fillsSrc h, dst := nodeExpected fillsDst h,
      common := commonOf (leaderNode h) (leaders (allRecords h) 0), thr := thrOfLn (leaderNode h) } := rfl

theorem leaderNode_reset (l : List Ev) : leaderNode (l ++ [.reset]) = (leaderNode l).map nodeReset := by
  unfold leaderNode
  rw [allRecords_reset, nodeExpected_reset, nodeExpected_reset]
  cases (leaders (allRecords l) 0).getLast? with
  | none => rfl
  | some x => simp only [Option.map_some]; split <;> rfl

theorem leaderNode_leader (l : List Ev) (r : InRec) (hr : r.end_ ≥ maxEnd (allRecords l) 0) :
    leaderNode (l ++ [.record r]) = some (if fillsDst r then nodeExpected fillsDst (l ++ [.record r])
      else nodeExpected fillsSrc (l ++ [.record r])) := by
  unfold leaderNode
  rw [allRecords_record, leaders_snoc, if_pos hr, List.getLast?_concat]
  rfl

/-- a record that is not later than an earlier record `x` of a node does not count for that node: there end
    times increase -/
theorem nodeExpected_earlier (fills : InRec → Bool) (l : List Ev) (r x : InRec) (hx : x ∈ allRecords l)
    (hfx : fills x = true) (hle : r.end_ ≤ x.end_)
    (hc : contractNode (recordsOf fills l ++ if fills r then [r] else []) = true) :
    nodeExpected fills (l ++ [.record r]) = nodeExpected fills l := by
  rw [nodeExpected_record _ _ _ hc]
  cases hfr : fills r with
  | false => rfl
  | true =>
    rw [hfr] at hc
    have := contractNode_snoc_lt _ r hc x (by rw [recordsOf_eq_filter, List.mem_filter]; exact ⟨hx, hfx⟩)
    omega

theorem leaderNode_nonleader (l : List Ev) (r : InRec) (hc : contract (l ++ [.record r]) = true)
    (hr : ¬ r.end_ ≥ maxEnd (allRecords l) 0) : leaderNode (l ++ [.record r]) = leaderNode l := by
  have ⟨_, hs, hd, _⟩ := contract_record l r hc
  unfold leaderNode
  rw [allRecords_record, leaders_snoc, if_neg hr, List.append_nil]
  cases hx : (leaders (allRecords l) 0).getLast? with
  | none => rfl
  | some x =>
    have ⟨hxm, hxe⟩ := leaders_getLast _ x hx
    have hle : r.end_ ≤ x.end_ := by omega
    simp only [Option.map_some]
    cases hfx : fillsDst x with
    | true => rw [if_pos rfl, if_pos rfl, nodeExpected_earlier fillsDst l r x hxm hfx hle hd]
    | false =>
      have hfs : fillsSrc x = true := by simpa [hfx] using fills_or x
      rw [if_neg Bool.false_ne_true, if_neg Bool.false_ne_true, nodeExpected_earlier fillsSrc l r x hxm hfs hle hs]

theorem commonOf_length (ln : Option NodeExp) (lead : List InRec) : (commonOf ln lead).length = nStats := by
  unfold commonOf
  rw [List.length_map, List.length_range]

theorem commonOf_reset (ln : Option NodeExp) (lead : List InRec) :
    clr (commonOf ln lead) = commonOf (ln.map nodeReset) lead := by
  unfold commonOf
  rw [clr_range_map]
  apply List.map_congr_left
  intro i _
  cases hd : isDelta i
  · rfl
  · cases ln with
    | none => rfl
    | some n => simp only [Option.map_some, nodeReset, clr_getD, hd, if_true]

theorem thrOfLn_reset (ln : Option NodeExp) : thrOfLn (ln.map nodeReset) = [0, 0] := by
  cases ln <;> rfl

theorem expected_nil : expected [] = zeroE := by decide

theorem expected_reset (h : List Ev) : expected (h ++ [.reset]) = resetStep (expected h) := by
  simp only [expected_eq, resetStep, allRecords_reset, nodeExpected_reset, leaderNode_reset, commonOf_reset,
    thrOfLn_reset]

theorem expected_record (h : List Ev) (r : InRec) (hc : contract (h ++ [.record r]) = true) :
    expected (h ++ [.record r]) = recordStep r (fillsSrc r) (fillsDst r) (expected h) := by
  -- Field by field. A record that attains the latest end time becomes the last leader: the common fields follow its
  -- node (`leaderNode_leader`) and its totals enter the maxima. Any other record leaves leaders and leader node as they
  -- were (`leaderNode_nonleader`): the common fields stay.
  have ⟨_, hs, hd, _⟩ := contract_record h r hc
  simp only [expected_eq, recordStep, allRecords_record, maxEnd_snoc, leaders_snoc, Expected.mk.injEq, true_and]
  by_cases hr : r.end_ ≥ maxEnd (allRecords h) 0
  · rw [leaderNode_leader h r hr]
    simp only [nodeExpected_record _ _ _ hs, nodeExpected_record _ _ _ hd, hr, if_true, thrOfLn, and_true, true_and]
    unfold commonOf
    apply List.map_congr_left
    intro i hi
    rw [List.mem_range] at hi
    rw [List.foldl_append, getD_range_map, if_pos hi]
    cases isDelta i <;> rfl
  · rw [leaderNode_nonleader h r hc hr]
    simp only [nodeExpected_record _ _ _ hs, nodeExpected_record _ _ _ hd, hr, if_false, and_true, true_and,
      List.append_nil]
    conv => lhs; rw [← range_map_getD_self (commonOf _ _), commonOf_length]

/-- what `aggNums_step` asks of the record: under the contract it is later than its node's previous
    record, and a record that counts for both nodes finds them equal (no record of the flow was correlated) -/
theorem expected_admits (h : List Ev) (r : InRec) (hc : contract (h ++ [.record r]) = true) :
    prevEndOf r (if fillsDst r then (expected h).dst else (expected h).src) < r.end_ ∧
    (fillsSrc r = true → fillsDst r = true → (expected h).src = (expected h).dst) := by
  have ⟨_, hs, hd, hag⟩ := contract_record h r hc
  refine ⟨?_, fun hfs hfd => nodeExpected_congr _ _ h fun y hy => ?_⟩
  · cases hfd : fillsDst r
    · have hfs : fillsSrc r = true := by simpa [hfd] using fills_or r
      rw [hfs] at hs
      exact prevEndOf_lt fillsSrc h r hs
    · rw [hfd] at hd
      exact prevEndOf_lt fillsDst h r hd
  · -- every record of the flow counts for both nodes, as `r` does
    have := (fills_both_iff y).mpr ((hag y hy).trans ((fills_both_iff r).mp ⟨hfs, hfd⟩))
    rw [this.1, this.2]

/-- the model's record after a history shows exactly what the specification expects: the one refinement
    theorem, of which `node_fields` and `common_fields` are projections (`end_latest` is one too; `end_inv`
    gives it without the contract) -/
theorem refines (h : List Ev) (a : AggRec) (hc : contract h = true) (hm : modelAfter h = some a) :
    shown a.nums = expected h := by
  refine modelAfter_ind (P := fun h a => contract h = true → shown a.nums = expected h) ?_ ?_ h a hm hc
  · intro r hc
    rw [← List.nil_append [Ev.record r], expected_record [] r hc, expected_nil]
    exact shown_create r (goodRec_of_contract [] r hc)
  · intro h a e _ ih hc
    cases e with
    | reset =>
      rw [contract_reset] at hc
      rw [expected_reset, ← ih hc]
      exact shown_reset a
    | record r =>
      have ih := ih (contract_record h r hc).1
      have ⟨hp, heq⟩ := expected_admits h r hc
      rw [← ih] at hp heq
      rw [expected_record h r hc, ← ih]
      show shown (update r a).nums = _
      rw [update_nums]
      exact aggNums_step r a _ _ (fills_or r) (goodRec_of_contract h r hc).2.1 hp heq

/-- per-node fields: latest totals, sums of deltas since the last reset, latest end time, throughput -/
theorem node_fields (h : List Ev) (a : AggRec) (hc : contract h = true) (hm : modelAfter h = some a) :
    a.srcStats = (nodeExpected fillsSrc h).stats ∧ a.endSrc = (nodeExpected fillsSrc h).end_ ∧ a.thrSrc = (nodeExpected fillsSrc h).thr ∧
    a.dstStats = (nodeExpected fillsDst h).stats ∧ a.endDst = (nodeExpected fillsDst h).end_ ∧ a.thrDst = (nodeExpected fillsDst h).thr := by
  have hsrc : srcN a.nums = nodeExpected fillsSrc h := congrArg Expected.src (refines h a hc hm)
  have hdst : dstN a.nums = nodeExpected fillsDst h := congrArg Expected.dst (refines h a hc hm)
  rw [← hsrc, ← hdst]
  exact ⟨rfl, rfl, rfl, rfl, rfl, rfl⟩

/-- the common fields follow the node that reported the latest end time -/
theorem common_fields (h : List Ev) (a : AggRec) (hc : contract h = true) (hm : modelAfter h = some a) :
    a.stats = (expected h).common ∧ a.thr = (expected h).thr :=
  ⟨congrArg Expected.common (refines h a hc hm), congrArg Expected.thr (refines h a hc hm)⟩

end Ipfix.C05
