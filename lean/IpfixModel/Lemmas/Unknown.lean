/-
  What the decoding mode does to a data record, and what cutting the unknown fields out of a record does.
-/
import IpfixModel.Lemmas.Collector
import IpfixModel.Spec.C17
namespace Ipfix
open Outcome C03 C17

theorem filterKnown_named {tpl : Template} {vs : List Value} (hn : ∀ ie ∈ tpl, ie.name ≠ "")
    (hl : vs.length ≤ tpl.length) : filterKnown tpl vs = vs := by
  induction tpl generalizing vs with
  | nil =>
    cases vs with
    | nil => rfl
    | cons _ _ => simp at hl
  | cons ie t ih =>
    cases vs with
    | nil => rfl
    | cons v vs =>
      have h1 : IE.known ie = true := by simpa [IE.known] using hn ie (by simp)
      simp only [filterKnown, h1, if_true]
      rw [ih (fun x hx => hn x (by simp [hx])) (by simpa using hl)]

theorem decodeRecord_mode (mode : Mode) (tpl : Template) (b : Bytes) :
    decodeRecord mode tpl b =
      (decodeRecord .keep tpl b >>= fun (vs, r) => .ok (if mode = .drop then filterKnown tpl vs else vs, r)) := by
  induction tpl generalizing b with
  | nil => cases mode <;> rfl
  | cons ie t ih =>
    simp only [decodeRecord, bind_assoc]
    refine bind_congr fun (v, r) _ => ?_
    rw [ih r, bind_assoc]
    refine bind_congr fun (vs, r') _ => ?_
    have hk : ¬ (Mode.keep = .drop ∧ ie.name = "") := fun h => nomatch h.1
    simp only [if_neg hk, bind_ok, filterKnown, IE.known]
    by_cases hm : mode = .drop
    · by_cases hn : ie.name = ""
      · simp [hm, hn]
      · simp [hm, hn]
    · simp [hm]

/-- the record loop looks at the mode only through `decodeRecord` -/
theorem decodeRecordsFuel_congr {m m' : Mode} {tpl : Template} (h : ∀ b, decodeRecord m tpl b = decodeRecord m' tpl b)
    (fuel : Nat) (b : Bytes) : decodeRecordsFuel m tpl fuel b = decodeRecordsFuel m' tpl fuel b := by
  induction fuel generalizing b with
  | zero => rfl
  | succ f ih => simp only [decodeRecordsFuel, h, ih]

theorem decodeRecords_congr {m m' : Mode} {tpl : Template} (h : ∀ b, decodeRecord m tpl b = decodeRecord m' tpl b)
    (b : Bytes) : decodeRecords m tpl b = decodeRecords m' tpl b := by
  simp only [decodeRecords, decodeRecordsFuel_congr h]

/-- the slices at the positions of known elements -/
def stripUnknown : Template → List Bytes → List Bytes
  | ie :: t, s :: ss => if IE.known ie then s :: stripUnknown t ss else stripUnknown t ss
  | _, _ => []

theorem isRecord_strip {tpl : Template} {ss ps : List Bytes} (h : IsRecord tpl ss ps) :
    IsRecord (tpl.filter IE.known) (stripUnknown tpl ss) (stripUnknown tpl ps) := by
  induction h with
  | nil => exact .nil
  | @cons ie t s p ss ps hf _ ih =>
    by_cases hk : IE.known ie = true
    · simp only [List.filter, stripUnknown, hk, if_true]; exact .cons hf ih
    · have hk' : IE.known ie = false := by simpa using hk
      simp only [List.filter, stripUnknown, hk', Bool.false_eq_true, if_false]; exact ih

theorem decodePayloads_strip {tpl : Template} {ss ps : List Bytes} {vs : List Value} (h : IsRecord tpl ss ps)
    (hd : decodePayloads .keep tpl ps = .ok vs) :
    decodePayloads .keep (tpl.filter IE.known) (stripUnknown tpl ps) = .ok (filterKnown tpl vs) := by
  induction h generalizing vs with
  | nil => simp [decodePayloads] at hd; subst hd; simp [decodePayloads, stripUnknown, filterKnown]
  | @cons ie t s p ss ps hf _ ih =>
    simp only [decodePayloads] at hd
    obtain ⟨v, hv, hd⟩ := bind_eq_ok.mp hd
    obtain ⟨vs', hvs, hd⟩ := bind_eq_ok.mp hd
    simp at hd; subst hd
    by_cases hk : IE.known ie = true
    · simp only [List.filter, stripUnknown, filterKnown, hk, if_true, decodePayloads, hv, ih hvs, bind_ok]
      simp
    · have hk' : IE.known ie = false := by simpa using hk
      simp only [List.filter, stripUnknown, filterKnown, hk', Bool.false_eq_true, if_false, ih hvs]

end Ipfix
