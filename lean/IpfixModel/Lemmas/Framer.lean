/-
  Helper lemmas for property C11 (Props/C11.lean): the reader loop `Framer.drain` / `feed` and the
  declarative splitting `C11.frames`. Both look at the front of a buffer in the same way (`Stuck` or a
  complete frame); their equations are stated in those terms, and the loop is the splitting followed
  by decoding in order, fuel for fuel (`drain_eq_spec`). Segments one after the other: a frame that is
  complete before more bytes arrive is handled in the same way after (`drain_app_fuel`). At the end the
  simulation relation `Tracks` / `Rel` between the model's collecting process and the specification's.
-/
import IpfixModel.Model.Framer
import IpfixModel.Spec.C11
namespace Ipfix.Framer
open Ipfix.C11

variable {σ μ : Type}

theorem peekLen_append {b : Bytes} {n : Nat} (c : Bytes) (h : peekLen b = some n) :
    peekLen (b ++ c) = some n := by
  match b, h with
  | _ :: _ :: _ :: _ :: _, h => exact h

theorem peekLen_some_length {b : Bytes} {n : Nat} (h : peekLen b = some n) : 4 ≤ b.length := by
  match b, h with
  | _ :: _ :: _ :: _ :: _, _ => simp

theorem peekLen_none_of_short {b : Bytes} (h : b.length < 4) : peekLen b = none :=
  match hp : peekLen b with
  | none => rfl
  | some _ => absurd (peekLen_some_length hp) (Nat.not_le.2 h)

theorem peekLen_take {b : Bytes} {n : Nat} (h : peekLen b = some n) (h4 : 4 ≤ n) :
    peekLen (b.take n) = some n := by
  match b, h with
  | _ :: _ :: _ :: _ :: _, h =>
    match n, h4 with
    | _+4, _ => exact h

theorem dec_some_length (dec : Decoder σ μ) {st : σ} {f : Bytes} {m : μ}
    (h : (dec.run st f).2 = some m) : 4 ≤ f.length :=
  Nat.le_of_not_lt fun hn => nomatch (dec.short st f hn).symm.trans h

/-- no complete frame is at the front of `b`: the reader is blocked in Peek or ReadFull, the splitting ends -/
def Stuck (b : Bytes) : Prop := ∀ n, peekLen b = some n → b.length < n

theorem stuck_or_front (b : Bytes) : Stuck b ∨ ∃ n, peekLen b = some n ∧ n ≤ b.length := by
  unfold Stuck
  cases h : peekLen b with
  | none => exact .inl fun _ h => nomatch h
  | some n =>
    by_cases hle : n ≤ b.length
    · exact .inr ⟨n, rfl, hle⟩
    · exact .inl fun m hm => Option.some.inj hm ▸ Nat.lt_of_not_le hle

/-- behind a frame of 4 bytes or more the fuel goes down with the length -/
theorem length_drop_lt {b : Bytes} {n f : Nat} (h4 : ¬ n < 4) (hle : n ≤ b.length) (hf : b.length < f + 1) :
    (b.drop n).length < f := by
  rw [List.length_drop]
  omega

theorem framesFuel_stuck {b : Bytes} (h : Stuck b) (f : Nat) : framesFuel f b = ([], b) := by
  cases f with
  | zero => rfl
  | succ f =>
    unfold framesFuel
    split
    · rfl
    · next n hn => rw [if_neg (Nat.not_le.2 (h n hn))]

theorem framesFuel_front {b : Bytes} {n : Nat} (hn : peekLen b = some n) (hle : n ≤ b.length) (f : Nat) :
    framesFuel (f+1) b =
      (b.take n :: if n < 4 then [] else (framesFuel f (b.drop n)).1,
       if n < 4 then b.drop n else (framesFuel f (b.drop n)).2) := by
  simp only [framesFuel, hn, if_pos hle]
  split
  · rfl
  · rfl

theorem drain_closed (dec : Decoder σ μ) {s : FState σ μ} (hc : s.closed = true) (f : Nat) :
    drain dec f s = s := by
  cases f with
  | zero => rfl
  | succ f => rw [drain, if_pos hc]

theorem drain_stuck (dec : Decoder σ μ) {s : FState σ μ} (h : Stuck s.buf) (f : Nat) : drain dec f s = s := by
  cases f with
  | zero => rfl
  | succ f =>
    unfold drain
    split
    · rfl
    · split
      · rfl
      · next n hn => rw [if_neg (Nat.not_le.2 (h n hn))]

theorem drain_front (dec : Decoder σ μ) {s : FState σ μ} {n : Nat} (hc : s.closed = false)
    (hn : peekLen s.buf = some n) (hle : n ≤ s.buf.length) (f : Nat) :
    drain dec (f+1) s =
      match dec.run s.st (s.buf.take n) with
      | (st', none) => { s with st := st', closed := true, buf := [] }
      | (st', some m) => drain dec f { s with st := st', buf := s.buf.drop n, out := s.out ++ [m] } := by
  rw [drain, if_neg (by simp [hc]), hn]
  exact if_pos hle

theorem app_open {s : FState σ μ} (hc : s.closed = false) (c : Bytes) :
    app s c = { s with buf := s.buf ++ c } :=
  if_neg (by simp [hc])

theorem app_closed {s : FState σ μ} (hc : s.closed = true) (c : Bytes) : app s c = s := if_pos hc

theorem app_app (s : FState σ μ) (a b : Bytes) : app (app s a) b = app s (a ++ b) := by
  unfold app; split <;> simp_all [List.append_assoc]

theorem app_buf_le (s : FState σ μ) (c : Bytes) : (app s c).buf.length ≤ (s.buf ++ c).length := by
  unfold app; split <;> simp

theorem framesFuel_fuel (f : Nat) (b : Bytes) (hf : b.length < f) :
    ∀ g, b.length < g → framesFuel f b = framesFuel g b := by
  induction f generalizing b with
  | zero => omega
  | succ f ih =>
    intro g hg
    rcases stuck_or_front b with h | ⟨n, hn, hle⟩
    · rw [framesFuel_stuck h, framesFuel_stuck h]
    · cases g with
      | zero => omega
      | succ g =>
        rw [framesFuel_front hn hle, framesFuel_front hn hle]
        split
        · rfl
        · next h4 => rw [ih (b.drop n) (length_drop_lt h4 hle hf) g (length_drop_lt h4 hle hg)]

theorem frames_eq (b : Bytes) (g : Nat) (hg : b.length < g) : frames b = framesFuel g b :=
  framesFuel_fuel _ b (by omega) g hg

theorem framesFuel_flatten (f : Nat) (b : Bytes) : (framesFuel f b).1.flatten ++ (framesFuel f b).2 = b := by
  induction f generalizing b with
  | zero => rfl
  | succ f ih =>
    rcases stuck_or_front b with h | ⟨n, hn, hle⟩
    · rw [framesFuel_stuck h]
      rfl
    · rw [framesFuel_front hn hle]
      split
      · simp
      · simp only [List.flatten_cons, List.append_assoc, ih, List.take_append_drop]

theorem framesFuel_wf (f : Nat) (b : Bytes) : ∀ x ∈ (framesFuel f b).1, 4 ≤ x.length → WFFrame x := by
  induction f generalizing b with
  | zero => nofun
  | succ f ih =>
    rcases stuck_or_front b with h | ⟨n, hn, hle⟩
    · rw [framesFuel_stuck h]
      nofun
    · rw [framesFuel_front hn hle]
      intro x hx hx4
      rcases List.mem_cons.1 hx with rfl | hx
      · rw [List.length_take_of_le hle] at hx4
        rw [WFFrame, List.length_take_of_le hle, peekLen_take hn hx4]
      · split at hx
        · cases hx
        · exact ih _ x hx hx4

/-- the rest holds no complete frame, i.e. is `Stuck` (unless the splitting ended at a frame shorter than 4) -/
theorem framesFuel_rest (f : Nat) (b : Bytes) (hf : b.length < f)
    (hall : ∀ x ∈ (framesFuel f b).1, 4 ≤ x.length) :
    ∀ n, peekLen (framesFuel f b).2 = some n → (framesFuel f b).2.length < n := by
  induction f generalizing b with
  | zero => omega
  | succ f ih =>
    rcases stuck_or_front b with h | ⟨n, hn, hle⟩
    · rw [framesFuel_stuck h]
      exact h
    · rw [framesFuel_front hn hle] at hall ⊢
      have h4 : ¬ n < 4 := by
        have := hall _ List.mem_cons_self
        rw [List.length_take_of_le hle] at this
        omega
      simp only [if_neg h4] at hall ⊢
      exact ih _ (length_drop_lt h4 hle hf) fun x hx => hall x (List.mem_cons_of_mem _ hx)

theorem frames_cons {w : Bytes} (hw : WFFrame w) (r : Bytes) :
    frames (w ++ r) = (w :: (frames r).1, (frames r).2) := by
  have h4 : ¬ w.length < 4 := Nat.not_lt.2 (peekLen_some_length hw)
  rw [frames, framesFuel_front (peekLen_append r hw) (by simp), if_neg h4, if_neg h4,
    List.take_left' rfl, List.drop_left' rfl, ← frames_eq r]
  rw [List.length_append]
  omega

theorem frames_nil : frames ([] : Bytes) = ([], []) := rfl

theorem frames_flatten_wf (ws : List Bytes) (hw : ∀ w ∈ ws, WFFrame w) (r : Bytes) :
    frames (ws.flatten ++ r) = (ws ++ (frames r).1, (frames r).2) := by
  induction ws with
  | nil => rfl
  | cons w ws ih =>
    rw [List.flatten_cons, List.append_assoc, frames_cons (hw w (by simp)),
      ih (fun x hx => hw x (by simp [hx]))]
    rfl

/-- `hall`: the splitting of `b` did not stop at a frame with a length field below 4. Behind such a frame `frames`
    does not look, so its rest need not be incomplete (`framesFuel_rest` asks the same) and extending it would cut
    frames that `frames (b ++ c)` does not have. An open connection satisfies it because the decoder accepted every
    frame (`runFrames_open`); that is the second half of `Tracks`. -/
theorem frames_append (b c : Bytes) (hall : ∀ x ∈ (frames b).1, 4 ≤ x.length) :
    frames (b ++ c) = ((frames b).1 ++ (frames ((frames b).2 ++ c)).1, (frames ((frames b).2 ++ c)).2) := by
  have h := frames_flatten_wf (frames b).1 (fun x hx => framesFuel_wf _ b x hx (hall x hx)) ((frames b).2 ++ c)
  rwa [← List.append_assoc, show (frames b).1.flatten ++ (frames b).2 = b from framesFuel_flatten _ b] at h

theorem newFrames_eq {stream : Bytes} (hall : ∀ x ∈ (frames stream).1, 4 ≤ x.length) (chunk : Bytes) :
    newFrames stream chunk = (frames ((frames stream).2 ++ chunk)).1 := by
  rw [newFrames, frames_append stream chunk hall, List.drop_left]

/-! `fun_induction runFrames` has the cases of the definition: `case1` no frame is left; `case2` the first frame `f` is
  refused, `hd : dec.run st f = (st', none)`; `case3` it decodes, `hd : dec.run st f = (st', some m)`, and `ih` is about
  the other frames `fs` from `st'`. -/

theorem runFrames_append_open (dec : Decoder σ μ) (st : σ) (a b : List Bytes)
    (h : (runFrames dec st a).2.2 = false) :
    runFrames dec st (a ++ b) =
      ((runFrames dec (runFrames dec st a).1 b).1,
       (runFrames dec st a).2.1 ++ (runFrames dec (runFrames dec st a).1 b).2.1,
       (runFrames dec (runFrames dec st a).1 b).2.2) := by
  fun_induction runFrames dec st a with
  | case1 st => rfl
  | case2 st f fs st' hd => cases h
  | case3 st f fs st' m hd ih =>
    simp only [List.cons_append, runFrames, hd]
    rw [ih h]

theorem runFrames_append_closed (dec : Decoder σ μ) (st : σ) (a b : List Bytes)
    (h : (runFrames dec st a).2.2 = true) : runFrames dec st (a ++ b) = runFrames dec st a := by
  fun_induction runFrames dec st a with
  | case1 st => cases h
  | case2 st f fs st' hd => simp only [List.cons_append, runFrames, hd]
  | case3 st f fs st' m hd ih =>
    simp only [List.cons_append, runFrames, hd]
    rw [ih h]

theorem runFrames_get (dec : Decoder σ μ) (st : σ) (fs : List Bytes) :
    ∀ (i : Nat) (m : μ), (runFrames dec st fs).2.1[i]? = some m → ∃ f a, fs[i]? = some f ∧ (dec.run a f).2 = some m := by
  fun_induction runFrames dec st fs with
  | case1 st => nofun
  | case2 st f fs st' hd => nofun
  | case3 st f fs st' m hd ih =>
    intro i m' h
    cases i with
    | zero =>
      cases h
      exact ⟨f, st, rfl, by rw [hd]⟩
    | succ i => exact ih i m' h

theorem runFrames_length_le (dec : Decoder σ μ) (st : σ) (fs : List Bytes) :
    (runFrames dec st fs).2.1.length ≤ fs.length := by
  fun_induction runFrames dec st fs with
  | case1 st => exact Nat.le_refl 0
  | case2 st f fs st' hd => exact Nat.zero_le _
  | case3 st f fs st' m hd ih => exact Nat.succ_le_succ ih

theorem runFrames_open (dec : Decoder σ μ) (st : σ) (fs : List Bytes) (h : (runFrames dec st fs).2.2 = false) :
    (runFrames dec st fs).2.1.length = fs.length ∧ ∀ f ∈ fs, 4 ≤ f.length := by
  fun_induction runFrames dec st fs with
  | case1 st => exact ⟨rfl, nofun⟩
  | case2 st f fs st' hd => cases h
  | case3 st f fs st' m hd ih =>
    refine ⟨congrArg (· + 1) (ih h).1, fun x hx => ?_⟩
    rcases List.mem_cons.1 hx with rfl | hx
    · exact dec_some_length dec (by rw [hd])
    · exact (ih h).2 x hx

/-- a closed result means some frame did not decode, and exactly the frames before it were delivered -/
theorem runFrames_closed (dec : Decoder σ μ) (st : σ) (fs : List Bytes) (h : (runFrames dec st fs).2.2 = true) :
    ∃ good bad rest st1, fs = good ++ bad :: rest ∧ (runFrames dec st good).2.2 = false ∧
      (runFrames dec st good).1 = st1 ∧ (dec.run st1 bad).2 = none ∧
      (runFrames dec st fs).2.1 = (runFrames dec st good).2.1 := by
  fun_induction runFrames dec st fs with
  | case1 st => cases h
  | case2 st f fs st' hd => exact ⟨[], f, fs, st, rfl, rfl, rfl, by rw [hd], rfl⟩
  | case3 st f fs st' m hd ih =>
    obtain ⟨good, bad, rest, st1, h1, h2, h3, h4, h5⟩ := ih h
    refine ⟨f :: good, bad, rest, st1, by rw [h1, List.cons_append], ?_, ?_, h4, ?_⟩
    · rw [runFrames, hd]
      exact h2
    · rw [runFrames, hd]
      exact h3
    · rw [runFrames, hd]
      exact congrArg (m :: ·) h5

/-- the state the specification assigns to an open connection `s` whose buffer splits into `fr` -/
def specState (dec : Decoder σ μ) (s : FState σ μ) (fr : List Bytes × Bytes) : FState σ μ :=
  { st := (runFrames dec s.st fr.1).1,
    buf := if (runFrames dec s.st fr.1).2.2 then [] else fr.2,
    closed := (runFrames dec s.st fr.1).2.2,
    out := s.out ++ (runFrames dec s.st fr.1).2.1 }

theorem specState_st (dec : Decoder σ μ) (s : FState σ μ) (fr : List Bytes × Bytes) :
    (specState dec s fr).st = (runFrames dec s.st fr.1).1 := rfl

theorem specState_closed (dec : Decoder σ μ) (s : FState σ μ) (fr : List Bytes × Bytes) :
    (specState dec s fr).closed = (runFrames dec s.st fr.1).2.2 := rfl

theorem specState_out (dec : Decoder σ μ) (s : FState σ μ) (fr : List Bytes × Bytes) :
    (specState dec s fr).out = s.out ++ (runFrames dec s.st fr.1).2.1 := rfl

theorem specState_buf (dec : Decoder σ μ) (s : FState σ μ) (fr : List Bytes × Bytes) :
    (specState dec s fr).buf = if (runFrames dec s.st fr.1).2.2 then [] else fr.2 := rfl

theorem specState_nil (dec : Decoder σ μ) {s : FState σ μ} (hc : s.closed = false) :
    specState dec s ([], s.buf) = s := by
  cases s
  simp_all [specState, runFrames]

theorem specState_cons (dec : Decoder σ μ) (s : FState σ μ) (w : Bytes) (fs : List Bytes) (r : Bytes) :
    specState dec s (w :: fs, r) =
      match dec.run s.st w with
      | (st', none) => { s with st := st', closed := true, buf := [] }
      | (st', some m) => specState dec { s with st := st', out := s.out ++ [m] } (fs, r) := by
  rcases hd : dec.run s.st w with ⟨st', _ | m⟩
  · simp [specState, runFrames, hd]
  · simp [specState, runFrames, hd]

theorem drain_eq_spec (dec : Decoder σ μ) (f : Nat) (s : FState σ μ) (hc : s.closed = false) :
    drain dec f s = specState dec s (framesFuel f s.buf) := by
  induction f generalizing s with
  | zero => exact (specState_nil dec hc).symm
  | succ f ih =>
    rcases stuck_or_front s.buf with h | ⟨n, hn, hle⟩
    · rw [drain_stuck dec h, framesFuel_stuck h, specState_nil dec hc]
    · rw [drain_front dec hc hn hle, framesFuel_front hn hle, specState_cons]
      rcases hd : dec.run s.st (s.buf.take n) with ⟨st', _ | m⟩
      · rfl  -- refused: the connection closes on both sides, whatever would follow the frame
      · have h4 : 4 ≤ (s.buf.take n).length := dec_some_length dec (by rw [hd])
        rw [List.length_take_of_le hle] at h4
        simp only [if_neg (Nat.not_lt.2 h4)]
        exact ih _ hc

theorem feed_spec (dec : Decoder σ μ) (s : FState σ μ) (hc : s.closed = false) (chunk : Bytes) :
    feed dec s chunk = specState dec s (frames (s.buf ++ chunk)) := by
  rw [feed, app_open hc]
  exact drain_eq_spec dec _ { s with buf := s.buf ++ chunk } hc

theorem feed_closed (dec : Decoder σ μ) (s : FState σ μ) (hc : s.closed = true) (chunk : Bytes) :
    feed dec s chunk = s := by
  rw [feed, app_closed hc, drain_closed dec hc]

/-- the fuel matters to the loop only through the splitting -/
theorem drain_fuel (dec : Decoder σ μ) (f : Nat) (s : FState σ μ)
    (hf : s.buf.length < f) : ∀ g, s.buf.length < g → drain dec f s = drain dec g s := by
  intro g hg
  cases hc : s.closed with
  | true => rw [drain_closed dec hc, drain_closed dec hc]
  | false => rw [drain_eq_spec dec f s hc, drain_eq_spec dec g s hc, framesFuel_fuel f _ hf g hg]

theorem drain_buf_le (dec : Decoder σ μ) (f : Nat) (s : FState σ μ) : (drain dec f s).buf.length ≤ s.buf.length := by
  cases hc : s.closed with
  | true =>
    rw [drain_closed dec hc]
    exact Nat.le_refl _
  | false =>
    rw [drain_eq_spec dec f s hc, specState_buf]
    split
    · exact Nat.zero_le _
    · have := congrArg List.length (framesFuel_flatten f s.buf)
      rw [List.length_append] at this
      omega

/-- No condition on `f`: iterations the first drain could not make are made by the second. -/
theorem drain_app_fuel (dec : Decoder σ μ) (f : Nat) (s : FState σ μ) (c : Bytes) {g : Nat}
    (hg : (app (drain dec f s) c).buf.length < g) :
    drain dec g (app (drain dec f s) c) = drain dec (f + g) (app s c) := by
  induction f generalizing s with
  | zero =>
    rw [Nat.zero_add]
    rfl
  | succ f ih =>
    cases hc : s.closed with
    | true =>
      -- the first drain does nothing: only the fuel differs
      rw [drain_closed dec hc] at hg ⊢
      exact drain_fuel dec g _ hg _ (by omega)
    | false =>
      rcases stuck_or_front s.buf with hs | ⟨n, hn, hle⟩
      · rw [drain_stuck dec hs] at hg ⊢
        exact drain_fuel dec g _ hg _ (by omega)
      · -- the complete frame at the front of s.buf is also at the front of s.buf ++ c
        have hle' : n ≤ (s.buf ++ c).length := by
          rw [List.length_append]
          omega
        rw [Nat.succ_add, app_open hc,
          drain_front dec (s := { s with buf := s.buf ++ c }) hc (peekLen_append c hn) hle']
        rw [drain_front dec hc hn hle] at hg ⊢
        dsimp only
        rw [List.take_append_of_le_length hle, List.drop_append_of_le_length hle]
        rcases hd : dec.run s.st (s.buf.take n) with ⟨st', _ | m⟩
        · exact drain_closed dec rfl g
        · simp only [hd] at hg
          rw [ih _ hg, app_open]
          exact hc

/-- `drain_app_fuel` between any two fuels that suffice for `s.buf ++ c`. The bound `hf` on the fuel of the first
    drain is not used: what the first drain could not do, the second does. -/
theorem drain_app (dec : Decoder σ μ) (f : Nat) (s : FState σ μ) (c : Bytes)
    (hf : s.buf.length < f) :
    ∀ g h, (s.buf ++ c).length < g → (s.buf ++ c).length < h →
      drain dec g (app (drain dec f s) c) = drain dec h (app s c) := by
  intro g h hg hh
  have h1 := app_buf_le (drain dec f s) c
  have h2 := drain_buf_le dec f s
  have h3 := app_buf_le s c
  rw [List.length_append] at h1 h3 hg hh
  rw [drain_app_fuel dec f s c (by omega)]
  exact drain_fuel dec _ _ (by omega) h (by omega)

/-- feeding two segments one after the other = feeding their concatenation -/
theorem feed_feed (dec : Decoder σ μ) (s : FState σ μ) (a b : Bytes) :
    feed dec (feed dec s a) b = feed dec s (a ++ b) := by
  have h := app_buf_le s (a ++ b)
  unfold feed
  rw [drain_app_fuel dec _ (app s a) b (Nat.lt_succ_of_le (app_buf_le _ b)), app_app]
  refine (drain_fuel dec _ _ (Nat.lt_succ_of_le h) _ ?_).symm
  simp only [List.length_append] at h ⊢
  omega

theorem feedConn_none (dec : Decoder σ μ) {sys : Sys σ} {c : Nat} (h : sys.conns c = none) (chunk : Bytes) :
    feedConn dec sys c chunk = (sys, []) := by
  rw [feedConn, h]

theorem feedConn_some (dec : Decoder σ μ) {sys : Sys σ} {c : Nat} {cn : Conn} (h : sys.conns c = some cn)
    (chunk : Bytes) :
    feedConn dec sys c chunk =
      ({ st := (feed dec (view sys.st cn) chunk).st,
         conns := fun x => if x = c then some { buf := (feed dec (view sys.st cn) chunk).buf,
                                                closed := (feed dec (view sys.st cn) chunk).closed }
                           else sys.conns x },
       (feed dec (view sys.st cn) chunk).out) := by
  rw [feedConn, h]

end Ipfix.Framer

namespace Ipfix.C11
open Ipfix.Framer

variable {σ μ : Type}

/-- the specification's view `sc` (whole stream received) describes the connection state `cn`:
    same open/closed state, and an open connection buffers exactly the incomplete rest of its
    own stream, all of whose complete frames were consumed -/
def Tracks (sc : SConn) (cn : Conn) : Prop :=
  sc.closed = cn.closed ∧
  (cn.closed = false → cn.buf = (frames sc.stream).2 ∧ ∀ x ∈ (frames sc.stream).1, 4 ≤ x.length)

/-- the relation between the model's collecting process and the specification's -/
def Rel (sys : Sys σ) (ss : SSys σ) : Prop :=
  sys.st = ss.st ∧
  ∀ c, (sys.conns c = none ∧ ss.conns c = none) ∨
       ∃ cn sc, sys.conns c = some cn ∧ ss.conns c = some sc ∧ Tracks sc cn

theorem rel_update {sys : Sys σ} {ss : SSys σ} (h : Rel sys ss) {st st' : σ} (hst : st = st') (c : Nat)
    {cn : Conn} {sc : SConn} (ht : Tracks sc cn) :
    Rel { st := st, conns := fun x => if x = c then some cn else sys.conns x }
        { st := st', conns := fun x => if x = c then some sc else ss.conns x } := by
  refine ⟨hst, fun x => ?_⟩
  dsimp only
  split
  · exact .inr ⟨cn, sc, rfl, rfl, ht⟩
  · exact h.2 x

end Ipfix.C11
