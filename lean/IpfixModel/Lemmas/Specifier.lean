/-
  Template field specifiers, collector side. `decodeSpecifier` does two things: it reads
  (element id, field length, enterprise number if the enterprise bit is set) off the wire (`readSpec`), then
  resolves them against the registry according to the decoding mode (`resolve`). Each half has its own lemmas:
  what `readSpec` has read is said once (`readSpec_cases`), in the terms of the independent readings, which take
  the same step (`C03.wireSpecs` here, `ExpSpec.parseSpecs` in Lemmas/Wire.lean), and it inverts the exporter's
  `fieldSpec`; `resolve` is where known / unknown elements and strict / keep / drop differ, and where the stand-in
  for an unknown element (`unknownIE`) is made.
-/
import IpfixModel.Lemmas.Collector
import IpfixModel.Lemmas.Builder
namespace Ipfix
open Outcome

/-- the wire half of `decodeSpecifier`: (element id, field length, the enterprise number if the enterprise bit is set)
    and the rest. The collector looks an element without enterprise number up under enterprise 0. -/
def readSpec : Bytes → Option ((Nat × Nat × Option Nat) × Bytes)
  | i0 :: i1 :: l0 :: l1 :: r =>
    if i0.toNat / 128 = 1 then
      match r with
      | e0 :: e1 :: e2 :: e3 :: r' =>
        some ((i0.toNat % 128 * 256 + i1.toNat, l0.toNat * 256 + l1.toNat, some (unbe [e0, e1, e2, e3])), r')
      | _ => none
    else some ((i0.toNat * 256 + i1.toNat, l0.toNat * 256 + l1.toNat, none), r)
  | _ => none

/-- what the collector records for an element it does not find: no name, octet array, and the id,
    enterprise number and length exactly as they were on the wire -/
def unknownIE (ie : IE) : IE := { name := "", id := ie.id, ty := .octetArray, ent := ie.ent, len := ie.len }

/-- the registry half of `decodeSpecifier`, for an element described as `d`; only what a specifier carries is looked
    at: `d.id`, `d.ent`, `d.len`. A registered element must have a type the codec supports; an unknown one is refused
    in strict mode and when its length is 0, and otherwise held as `unknownIE d`. The rest of the buffer is handed
    on untouched. -/
def resolve (lookup : Nat → Nat → Option IE) (mode : Mode) (d : IE) (r : Bytes) : Outcome (IE × Bytes) :=
  match lookup d.ent d.id with
  | some ie => zeroValue ie >>= fun _ => .ok (ie, r)
  | none =>
    if mode = .strict then .err
    else if d.len = 0 then .err
    else .ok (unknownIE d, r)

/-- the specifier read off the wire describes an element without name or type (`resolve` asks for neither) -/
theorem decodeSpecifier_eq (lookup : Nat → Nat → Option IE) (mode : Mode) (b : Bytes) :
    decodeSpecifier lookup mode b =
      match readSpec b with
      | none => .err
      | some ((id, elen, ent), r) =>
        resolve lookup mode { name := "", id := id, ty := .octetArray, ent := ent.getD 0, len := elen } r := by
  match b with
  | [] | [_] | [_, _] | [_, _, _] => rfl
  | i0 :: i1 :: l0 :: l1 :: r =>
    by_cases hbit : i0.toNat / 128 = 1
    · simp only [decodeSpecifier, readSpec, if_pos hbit]
      match r with
      | [] | [_] | [_, _] | [_, _, _] => rfl
      | e0 :: e1 :: e2 :: e3 :: r' =>
        rfl
    · simp only [decodeSpecifier, readSpec, if_neg hbit]
      rfl

theorem decodeSpecifier_ok {lookup : Nat → Nat → Option IE} {mode : Mode} {b r : Bytes} {ie : IE}
    (h : decodeSpecifier lookup mode b = .ok (ie, r)) :
    ∃ id elen ent, readSpec b = some ((id, elen, ent), r) ∧
      ((lookup (ent.getD 0) id = some ie ∧ ∃ v, zeroValue ie = .ok v) ∨
        (lookup (ent.getD 0) id = none ∧ mode ≠ .strict ∧ elen ≠ 0 ∧
          ie = { name := "", id := id, ty := .octetArray, ent := ent.getD 0, len := elen })) := by
  rw [decodeSpecifier_eq] at h
  split at h
  next => cases h
  next id elen ent r' hr =>
    refine ⟨id, elen, ent, ?_⟩
    unfold resolve at h
    split at h
    next ie' hl =>
      obtain ⟨v, hv, h⟩ := bind_eq_ok.mp h
      cases h
      exact ⟨hr, .inl ⟨hl, v, hv⟩⟩
    next hl =>
      split at h
      next => cases h
      next hm =>
        split at h
        next => cases h
        next h0 =>
          cases h
          exact ⟨hr, .inr ⟨hl, hm, h0, rfl⟩⟩

/-- what `readSpec` has read when it succeeds, in the terms of the two independent readings (`C03.wireSpecs`,
    `ExpSpec.parseSpecs`): enterprise bit as a comparison with 128, cleared by subtracting 128 -/
theorem readSpec_cases {b r : Bytes} {t : Nat × Nat × Option Nat} (h : readSpec b = some (t, r)) :
    ∃ i0 i1 l0 l1 : UInt8,
      (i0.toNat < 128 ∧ b = i0 :: i1 :: l0 :: l1 :: r ∧
        t = (i0.toNat * 256 + i1.toNat, l0.toNat * 256 + l1.toNat, none)) ∨
      (128 ≤ i0.toNat ∧ ∃ e0 e1 e2 e3 : UInt8, b = i0 :: i1 :: l0 :: l1 :: e0 :: e1 :: e2 :: e3 :: r ∧
        t = ((i0.toNat - 128) * 256 + i1.toNat, l0.toNat * 256 + l1.toNat, some (unbe [e0, e1, e2, e3]))) := by
  unfold readSpec at h
  split at h
  next i0 i1 l0 l1 r0 =>
    have hi0 := i0.toNat_lt
    refine ⟨i0, i1, l0, l1, ?_⟩
    split at h
    next hbit =>  -- enterprise bit set: four more bytes
      split at h
      next e0 e1 e2 e3 r' =>
        cases h
        have : i0.toNat % 128 = i0.toNat - 128 := by omega
        exact .inr ⟨by omega, e0, e1, e2, e3, rfl, by rw [this]⟩
      next => cases h  -- fewer than four bytes are left
    next hbit =>
      cases h
      exact .inl ⟨by omega, rfl, rfl⟩
  next => cases h  -- fewer than four bytes

theorem readSpec_len {b r : Bytes} {id elen : Nat} {ent : Option Nat} (h : readSpec b = some ((id, elen, ent), r)) :
    elen < 65536 := by
  obtain ⟨i0, i1, l0, l1, ⟨_, _, ht⟩ | ⟨_, _, _, _, _, _, ht⟩⟩ := readSpec_cases h
  all_goals
    cases ht
    have := l0.toNat_lt
    have := l1.toNat_lt
    omega

theorem wireSpecs_succ {b r : Bytes} {t : Nat × Nat × Option Nat} (n : Nat) (h : readSpec b = some (t, r)) :
    C03.wireSpecs (n + 1) b = (C03.wireSpecs n r).map ((t.1, t.2.1, t.2.2.getD 0) :: ·) := by
  obtain ⟨i0, i1, l0, l1, ⟨hb, rfl, rfl⟩ | ⟨hb, e0, e1, e2, e3, rfl, rfl⟩⟩ := readSpec_cases h
  · simp only [C03.wireSpecs, if_neg (Nat.not_le_of_gt hb)]
    rfl
  · simp only [C03.wireSpecs, if_pos (hb : i0.toNat ≥ 128), unbe, List.foldl, Nat.zero_mul, Nat.zero_add, Option.getD_some]

theorem zeroValue_ok_or_err (ie : IE) : zeroValue ie = .err ∨ ∃ v, zeroValue ie = .ok v := by
  unfold zeroValue; split <;> simp

theorem zeroValue_safe (ie : IE) : Safe (zeroValue ie) := by
  rcases zeroValue_ok_or_err ie with h | ⟨v, h⟩
  · rw [h]; exact safe_err
  · rw [h]; exact safe_ok v

theorem resolve_safe (lookup : Nat → Nat → Option IE) (mode : Mode) (d : IE) (r : Bytes) :
    Safe (resolve lookup mode d r) := by
  unfold resolve
  split
  · exact safe_bind (zeroValue_safe _) fun _ _ => safe_ok _
  · split
    · exact safe_err
    · split
      · exact safe_err
      · exact safe_ok _

theorem decodeSpecifier_safe (lookup : Nat → Nat → Option IE) (mode : Mode) (b : Bytes) :
    Safe (decodeSpecifier lookup mode b) := by
  rw [decodeSpecifier_eq]
  split
  · exact safe_err
  · exact resolve_safe ..

theorem unknownIE_wf (ie : IE) (h0 : ie.len ≠ 0) (hle : ie.len ≤ 65535) : (unknownIE ie).WF :=
  (IE.wf_octetArray rfl).2 ⟨Nat.pos_of_ne_zero h0, hle⟩

theorem decodeSpecifiers_succ_eq_ok {lookup : Nat → Nat → Option IE} {mode : Mode} {n : Nat} {b : Bytes} {ies : List IE}
    (h : decodeSpecifiers lookup mode (n + 1) b = .ok ies) :
    ∃ ie r ies', decodeSpecifier lookup mode b = .ok (ie, r) ∧ decodeSpecifiers lookup mode n r = .ok ies' ∧
      ies = ie :: ies' := by
  obtain ⟨⟨ie, r⟩, h1, h⟩ := bind_eq_ok.mp h
  obtain ⟨ies', h2, h⟩ := bind_eq_ok.mp h
  cases h
  exact ⟨ie, r, ies', h1, h2, rfl⟩

theorem decodeSpecifiers_length {lookup : Nat → Nat → Option IE} {mode : Mode} {n : Nat} {b : Bytes}
    {ies : List IE} (h : decodeSpecifiers lookup mode n b = .ok ies) : ies.length = n := by
  induction n generalizing b ies with
  | zero => cases h; rfl
  | succ n ih =>
    obtain ⟨ie, r, ies', _, h2, rfl⟩ := decodeSpecifiers_succ_eq_ok h
    rw [List.length_cons, ih h2]

theorem decodeSpecifiers_mem {lookup : Nat → Nat → Option IE} {mode : Mode} {n : Nat} {b : Bytes} {ies : List IE}
    (h : decodeSpecifiers lookup mode n b = .ok ies) :
    ∀ ie ∈ ies, ∃ b' r, decodeSpecifier lookup mode b' = .ok (ie, r) := by
  induction n generalizing b ies with
  | zero => cases h; simp
  | succ n ih =>
    obtain ⟨ie, r, ies', h1, h2, rfl⟩ := decodeSpecifiers_succ_eq_ok h
    intro x hx
    rcases List.mem_cons.mp hx with rfl | hx
    · exact ⟨b, r, h1⟩
    · exact ih h2 x hx

theorem decodeSpecifiers_wf {lookup : Nat → Nat → Option IE} (hreg : ∀ ent id ie, lookup ent id = some ie → ie.WF)
    {mode : Mode} {n : Nat} {b : Bytes} {ies : List IE} (h : decodeSpecifiers lookup mode n b = .ok ies) :
    ∀ ie ∈ ies, ie.WF := by
  intro ie hie
  obtain ⟨_, _, h1⟩ := decodeSpecifiers_mem h ie hie
  obtain ⟨id, elen, ent, hr, ⟨hl, _⟩ | ⟨_, _, h0, rfl⟩⟩ := decodeSpecifier_ok h1
  · exact hreg _ _ _ hl
  · exact unknownIE_wf ⟨"", id, .octetArray, ent.getD 0, elen⟩ h0 (Nat.le_of_lt_succ (readSpec_len hr))

theorem decodeSpecifiers_safe (lookup : Nat → Nat → Option IE) (mode : Mode) (n : Nat) (b : Bytes) :
    Safe (decodeSpecifiers lookup mode n b) := by
  induction n generalizing b with
  | zero => exact safe_ok _
  | succ n ih =>
    unfold decodeSpecifiers
    apply safe_bind (decodeSpecifier_safe lookup mode b)
    rintro ⟨ie, r⟩ _
    exact safe_bind (ih r) (fun _ _ => safe_ok _)

theorem readSpec_fieldSpec (ie : IE) (h : C02.SpecOK ie) (rest : Bytes) :
    readSpec (fieldSpec ie ++ rest) = some ((ie.id, ie.len, if ie.ent ≠ 0 then some ie.ent else none), rest) := by
  obtain ⟨hid, hlen, hent⟩ := h
  obtain ⟨l0, l1, hl, hlv⟩ := be_two_bytes ie.len hlen
  unfold fieldSpec
  by_cases he : ie.ent = 0
  · obtain ⟨i0, i1, hi, hiv⟩ := be_two_bytes ie.id (by omega)
    rw [if_neg (not_not_intro he), hi, hl]
    simp only [List.cons_append, List.nil_append, readSpec]
    rw [if_neg (by omega), hiv, hlv, if_neg (not_not_intro he)]
  · have hmod : ie.id % 65536 = ie.id := Nat.mod_eq_of_lt (by omega)
    obtain ⟨i0, i1, hi, hiv⟩ := be_two_bytes (ie.id + 32768) (by omega)
    obtain ⟨e0, e1, e2, e3, hen, hev⟩ := be_four_bytes ie.ent hent
    have hbit := enterprise_bit hid hiv i1.toNat_lt
    rw [if_pos he, hmod, if_pos hid, hi, hl, hen]
    simp only [List.cons_append, List.nil_append, readSpec]
    rw [if_pos hbit.1, hev, hbit.2, hlv, if_pos he]

theorem decodeSpecifier_fieldSpec_gen (lookup : Nat → Nat → Option IE) (mode : Mode) (ie : IE) (h : C02.SpecOK ie)
    (rest : Bytes) :
    decodeSpecifier lookup mode (fieldSpec ie ++ rest) = resolve lookup mode ie rest := by
  have he : (if ie.ent ≠ 0 then some ie.ent else none).getD 0 = ie.ent := by
    split <;> simp_all
  simp only [decodeSpecifier_eq, readSpec_fieldSpec ie h, he]
  rfl

/-- an element the collector will find in its registry exactly as the exporter described it -/
def Registered (lookup : Nat → Nat → Option IE) (ie : IE) : Prop :=
  lookup ie.ent ie.id = some ie ∧ zeroValue ie ≠ .err ∧ C02.SpecOK ie

theorem decodeSpecifier_fieldSpec (lookup : Nat → Nat → Option IE) (mode : Mode) (ie : IE) (h : Registered lookup ie)
    (rest : Bytes) : decodeSpecifier lookup mode (fieldSpec ie ++ rest) = .ok (ie, rest) := by
  obtain ⟨v, hv⟩ := (zeroValue_ok_or_err ie).resolve_left h.2.1
  rw [decodeSpecifier_fieldSpec_gen lookup mode ie h.2.2, resolve, h.1]
  simp only [hv, bind_ok]

theorem decodeSpecifiers_fieldSpecs (lookup : Nat → Nat → Option IE) (mode : Mode) (ies : List IE)
    (h : ∀ ie ∈ ies, Registered lookup ie) (rest : Bytes) :
    decodeSpecifiers lookup mode ies.length ((ies.map fieldSpec).flatten ++ rest) = .ok ies := by
  induction ies with
  | nil => simp [decodeSpecifiers]
  | cons ie t ih =>
    simp only [List.map_cons, List.flatten_cons, List.length_cons, List.append_assoc, decodeSpecifiers]
    rw [decodeSpecifier_fieldSpec lookup mode ie (h ie (by simp))]
    simp [ih (fun x hx => h x (by simp [hx]))]

/-- an element as the collector will hold it after a lenient template: itself when registered,
    the nameless octet array otherwise -/
def asDelivered (lookup : Nat → Nat → Option IE) (ie : IE) : IE :=
  match lookup ie.ent ie.id with
  | some ie' => ie'
  | none => unknownIE ie

/-- acceptable to a lenient collector: registered as described, or unknown with a non-zero length -/
def Lenient (lookup : Nat → Nat → Option IE) (ie : IE) : Prop :=
  Registered lookup ie ∨ (lookup ie.ent ie.id = none ∧ ie.len ≠ 0 ∧ C02.SpecOK ie)

theorem decodeSpecifiers_lenient (lookup : Nat → Nat → Option IE) (mode : Mode) (hm : mode ≠ .strict) (ies : List IE)
    (h : ∀ ie ∈ ies, Lenient lookup ie) (rest : Bytes) :
    decodeSpecifiers lookup mode ies.length ((ies.map fieldSpec).flatten ++ rest) = .ok (ies.map (asDelivered lookup)) := by
  induction ies with
  | nil => simp [decodeSpecifiers]
  | cons ie t ih =>
    simp only [List.map_cons, List.flatten_cons, List.length_cons, List.append_assoc, decodeSpecifiers]
    have iht := ih (fun x hx => h x (by simp [hx]))
    rcases h ie (by simp) with hr | ⟨hn, hl, hs⟩
    · rw [decodeSpecifier_fieldSpec lookup mode ie hr]
      simp [iht, asDelivered, hr.1]
    · rw [decodeSpecifier_fieldSpec_gen lookup mode ie hs]
      simp [resolve, hn, hm, hl, iht, asDelivered]

theorem decodeSpecifiers_strict_unknown (lookup : Nat → Nat → Option IE) (ies : List IE)
    (hs : ∀ ie ∈ ies, C02.SpecOK ie) (hunk : ∃ ie ∈ ies, lookup ie.ent ie.id = none) (rest : Bytes) :
    decodeSpecifiers lookup .strict ies.length ((ies.map fieldSpec).flatten ++ rest) = .err := by
  induction ies with
  | nil => obtain ⟨ie, hm, _⟩ := hunk; simp at hm
  | cons ie t ih =>
    simp only [List.map_cons, List.flatten_cons, List.length_cons, List.append_assoc, decodeSpecifiers]
    rw [decodeSpecifier_fieldSpec_gen lookup .strict ie (hs ie (by simp))]
    unfold resolve
    cases hl : lookup ie.ent ie.id with
    | none => simp
    | some ie' =>
      rcases zeroValue_ok_or_err ie' with hz | ⟨v, hz⟩
      · simp [hz]
      · simp only [hz, bind_ok]
        obtain ⟨x, hx, hxn⟩ := hunk
        simp at hx
        rcases hx with rfl | hx
        · rw [hl] at hxn; cases hxn
        · rw [ih (fun y hy => hs y (by simp [hy])) ⟨x, hx, hxn⟩]
          rfl

theorem decodeTemplateSet_record {lookup : Nat → Nat → Option IE} {mode : Mode} {c : CState} {dom tid : Nat}
    {ies : List IE} (htid : tid < 65536) (hn : ies.length < 65536) :
    decodeTemplateSet lookup mode c dom (templateRecordBytes tid ies) =
      match decodeSpecifiers lookup mode ies.length (ies.map fieldSpec).flatten with
      | .ok x => (c.insert (dom, tid) x, .ok (.template tid x))
      | .err => (c.erase (dom, tid), .err)
      | .panic => (c, .panic)
      | .diverge => (c, .diverge) := by
  obtain ⟨t0, t1, ht, htv⟩ := be_two_bytes tid htid
  obtain ⟨c0, c1, hc, hcv⟩ := be_two_bytes ies.length hn
  rw [templateRecordBytes, ht, hc]
  simp only [List.cons_append, List.nil_append, decodeTemplateSet, htv, hcv]
  rfl

end Ipfix
