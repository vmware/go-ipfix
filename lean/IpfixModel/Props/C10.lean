/-
  C10 - Over UDP a template stays usable for at least the configured lifetime after its most
  recent (re)transmission and is discarded once that lifetime has elapsed without a refresh,
  however expiry timers interleave with refreshes, replacements and invalidations.
  Property theorems, and the `tie*` definitions the statements of the ties are written with (model: Model/Timers.lean,
  definitions: Spec/C10.lean, lemmas: Lemmas/Timers.lean). Every theorem is about ALL event sequences, i.e. all placements of timer
  firing, clock reading and callback completion relative to the packets - no bound on length.

  Assumed (trusted): the timer contract of time.AfterFunc / Stop / Reset as written down at the top
  of Model/Timers.lean.

  The model's steps are coarser than the source (a whole addTemplate is one step during which the clock
  stands still; a callback's conditional deletion is one step). The `tie_*` theorems pin these
  atomicity assumptions to the shape of the source as re-extracted by tools/timerfacts into
  Generated/Timers.lean: a change of that shape breaks a theorem here although no input of the
  correspondence run - whose clock moves only between steps - can exhibit it.
-/
import IpfixModel.Lemmas.Timers
import IpfixModel.Generated.Timers
namespace Ipfix.C10
open Ipfix.Timers

/-! ## the invariant -/

theorem inv_init (ttl : Nat) : Inv (init ttl) :=
  (runInv_init ttl).inv

/-- the crux: EVERY event preserves the invariant (enabled or not, whatever the schedule) -/
theorem inv_step {s : TState} (h : Inv s) (e : Event) : Inv (step s e).1 :=
  inv_of_step h (step_rel s e)

theorem inv_reachable (ttl : Nat) (es : List Event) : Inv (run ttl es) :=
  (run_inv ttl es).inv

theorem inv_of_reachable {s : TState} (h : Reachable s) : Inv s := by
  obtain ⟨ttl, es, rfl⟩ := h
  exact inv_reachable ttl es

/-- the Bool checker the driver evaluates says `true` on every reachable state -/
theorem invB_reachable (ttl : Nat) (es : List Event) : invB (run ttl es) = true := by
  unfold invB
  exact decide_eq_true (inv_reachable ttl es)

/-! ## history functions vs state -/

theorem run_ttl (ttl : Nat) (es : List Event) : (run ttl es).ttl = ttl :=
  (run_inv ttl es).ttl

theorem ghost_reachable (ttl : Nat) (es : List Event) : Ghost es.reverse (run ttl es) :=
  (run_inv ttl es).ghost

/-- the model's clock is the sum of the advances -/
theorem clock_eq_now (ttl : Nat) (es : List Event) : clock es = (run ttl es).now :=
  (ghost_reachable ttl es).clock

/-- the ghost field is the time of the most recent `tpl` event for the key: expiry = lastRefresh + ttl -/
theorem expiry_is_lastRefresh_plus_ttl (ttl : Nat) (es : List Event) (p : Key × Tpl) (hp : p ∈ (run ttl es).tpls) :
    ∃ r, lastRefresh es p.1 = some r ∧ p.2.expiry = r + ttl ∧ r ≤ clock es := by
  have hg := (inv_reachable ttl es).ghost p hp
  rw [run_ttl] at hg
  rw [clock_eq_now ttl es]
  exact ⟨p.2.refreshed, (ghost_reachable ttl es).refresh p hp, hg.1, hg.2⟩

/-! ## every stored template has an expiry pending; removed ones have no armed timer -/

/-- every stored template has EXACTLY ONE armed timer (its own object's, created for its key, deadline
    = its expiry), or no armed timer at all but - being past its expiry - a callback of its own timer
    in flight that will still delete it (has not read the clock, or read a time at/after the expiry) -/
theorem stored_has_expiry_pending (ttl : Nat) (es : List Event) (p : Key × Tpl) (hp : p ∈ (run ttl es).tpls) :
    (∃ a ∈ (run ttl es).armed, a.oid = p.2.oid ∧ a.key = p.1 ∧ a.deadline = p.2.expiry ∧
        (∀ b ∈ (run ttl es).armed, (b.oid = p.2.oid ∨ b.key = p.1) → b = a) ∧
        ((run ttl es).armed.filter (fun b => b.oid == p.2.oid)).length = 1) ∨
    ((∀ b ∈ (run ttl es).armed, b.oid ≠ p.2.oid ∧ b.key ≠ p.1) ∧ p.2.expiry ≤ (run ttl es).now ∧
        ∃ c ∈ (run ttl es).pending, c.oid = p.2.oid ∧ c.key = p.1 ∧ eff c p.2) := by
  have h := inv_reachable ttl es
  by_cases hex : ∃ a ∈ (run ttl es).armed, a.oid = p.2.oid ∨ a.key = p.1
  · left
    obtain ⟨a, ha, hor⟩ := hex
    obtain ⟨e, ek, ed⟩ := armed_own h hp ha hor
    refine ⟨a, ha, e, ek, ed, fun b hb hor => ?_, ?_⟩
    · exact pw_inj (fun a : Armed => a.oid) h.armedU hb ha ((armed_own h hp hb hor).1.trans e.symm)
    · rw [← e]
      exact pw_count (fun a : Armed => a.oid) h.armedU ha
  · right
    refine ⟨fun b hb => ⟨fun e => hex ⟨b, hb, Or.inl e⟩, fun e => hex ⟨b, hb, Or.inr e⟩⟩, ?_⟩
    rcases h.pendingExpiry p hp with ⟨a, ha, e⟩ | ⟨le, c, hc, e, ef⟩
    · exact absurd ⟨a, ha, Or.inl e⟩ hex
    · exact ⟨le, c, hc, e, (h.cbKey c hc p hp e.symm).symm, ef⟩

/-- a removed template has no armed timer: every armed timer belongs to a template object that is
    stored right now, under the key the timer was created for -/
theorem removed_has_no_armed_timer (ttl : Nat) (es : List Event) :
    (∀ o, (∀ p ∈ (run ttl es).tpls, p.2.oid ≠ o) → ∀ a ∈ (run ttl es).armed, a.oid ≠ o) ∧
    (∀ k, (run ttl es).stored k = false → ∀ a ∈ (run ttl es).armed, a.key ≠ k) := by
  have h := inv_reachable ttl es
  constructor
  · intro o hno a ha e
    obtain ⟨q, hq, _, e2, _⟩ := h.armedOwner a ha
    exact hno q hq (e2.trans e)
  · intro k hk a ha e
    obtain ⟨q, hq, e1, _, _⟩ := h.armedOwner a ha
    exact not_stored_iff.1 hk q hq (e1.trans e)

/-! ## lifetime -/

/-- no template is dropped early: if the template for k is stored before an event and not after
    it, the event is its invalidation (`badTpl k`) or its whole lifetime, measured from its most
    recent (re)transmission, has elapsed -/
theorem no_early_drop (ttl : Nat) (es : List Event) (e : Event) (k : Key)
    (hs : (run ttl es).stored k = true) (hd : (step (run ttl es) e).1.stored k = false) (hb : e ≠ .badTpl k) :
    ∃ r, lastRefresh es k = some r ∧ r + ttl ≤ clock es := by
  have g := ghost_reachable ttl es
  obtain ⟨p, hp, rfl⟩ := stored_iff_mem.1 hs
  refine ⟨p.2.refreshed, g.refresh p hp, Nat.le_of_not_lt fun hlt => ?_⟩
  rw [clock_eq_now ttl es] at hlt
  obtain ⟨q, hq, e⟩ := stored_step (inv_reachable ttl es) (step_rel _ e) hp hb ((run_ttl ttl es).symm ▸ hlt)
  exact not_stored_iff.1 hd q hq e

/-- usable within the lifetime: (re)transmitted at r, not invalidated since, and fewer than ttl time
    units later => the template is stored and a data set for it is accepted - whatever timers fired,
    whatever stale callbacks ran in between -/
theorem usable_within_ttl (ttl : Nat) (es : List Event) (k : Key) (r : Nat)
    (hl : lastRefresh es k = some r) (hnb : noBadSince es k = true) (hlt : clock es < r + ttl) :
    (run ttl es).stored k = true ∧ (step (run ttl es) (.data k)).2.res = .accepted := by
  have g := ghost_reachable ttl es
  rw [clock_eq_now ttl es] at hlt
  have hs := stored_iff_mem.2 (g.usable k (withinTTL_iff.2 ⟨r, hl, hnb, (run_ttl ttl es).symm ▸ hlt⟩))
  exact ⟨hs, (step_data_res _ k).trans (if_pos hs)⟩

/-- none outlives its lifetime once its timer has run: when a callback that read a time at or after
    the template's current expiry (= most recent (re)transmission + ttl, i.e. no refresh moved the
    expiry past what the callback read) finishes, no template is stored under its key any more -/
theorem gone_after_timer_ran (ttl : Nat) (es : List Event) (cb : Cb) (r lr : Nat)
    (hcb : cb ∈ (run ttl es).pending) (hr : cb.nowRead = some r)
    (hl : lastRefresh es cb.key = some lr) (hle : lr + ttl ≤ r) :
    (step (run ttl es) (.cbFinish cb.cid)).1.stored cb.key = false :=
  not_stored_iff.2 (gone_step (inv_reachable ttl es) (ghost_reachable ttl es) hcb hr hl ((run_ttl ttl es).symm ▸ hle)
    (step_rel _ _))

/-- the same on states: a finishing callback deletes whatever template is stored under its key if
    that template's expiry is at or before the time the callback read -/
theorem finish_deletes_expired {s : TState} (h : Inv s) {cb : Cb} (hcb : cb ∈ s.pending) {r : Nat}
    (hr : cb.nowRead = some r) {p : Key × Tpl} (hp : p ∈ s.tpls) (hk : p.1 = cb.key) (hle : p.2.expiry ≤ r) :
    (step s (.cbFinish cb.cid)).1.stored cb.key = false := by
  refine not_stored_iff.2 fun q hq e => ?_
  obtain ⟨hq, hn⟩ := (mem_tpls_finish h hcb hr (step_rel s _)).1 hq
  rw [same_key h hp hq (e.trans hk.symm)] at hn
  exact hn ⟨hk, hle⟩

/-- ... and it leaves alone a template that was refreshed after the callback read the clock (the
    stale-callback case), or any template whose expiry is later than the time read -/
theorem finish_keeps_unexpired {s : TState} (h : Inv s) {cb : Cb} (hcb : cb ∈ s.pending) {r : Nat}
    (hr : cb.nowRead = some r) {p : Key × Tpl} (hp : p ∈ s.tpls) (hgt : r < p.2.expiry) :
    p ∈ (step s (.cbFinish cb.cid)).1.tpls :=
  (mem_tpls_finish h hcb hr (step_rel s _)).2 ⟨hp, fun ⟨_, hle⟩ => Nat.not_le_of_lt hgt hle⟩

/-! ## the executable predicate: what `chk` evaluates on the implementation holds on the model -/

/-- `chk` prints `holds` exactly when every demand of `StepOK` is met -/
theorem verdict_none_iff (ttl : Nat) (hist : List Event) (before : Obs) (e : Event) (after : Obs) :
    verdict ttl hist before e after = none ↔ StepOK ttl hist before e after := by
  unfold verdict checks
  rw [find_failed_none]
  simp only [List.forall_mem_cons, decide_eq_true_iff]
  -- the demands in the order of `checks`, each under the name of its `Why` = the field of `StepOK` / `ObsInv` it is
  constructor
  · rintro ⟨keysNodup, clockOK, noEarlyDrop, usable, gone, data, armedStored, armedOids, armedKeys, storedPending,
      cbPast, _⟩
    exact { inv := { keysNodup, storedPending, armedStored, armedOids, armedKeys, cbPast, clockOK },
            noEarlyDrop, usable, gone, data }
  · intro h
    exact ⟨h.inv.keysNodup, h.inv.clockOK, h.noEarlyDrop, h.usable, h.gone, h.data, h.inv.armedStored, h.inv.armedOids,
      h.inv.armedKeys, h.inv.storedPending, h.inv.cbPast, List.forall_mem_nil _⟩

/-- every trace of the model - every schedule, any length - satisfies the trace predicates -/
theorem model_trace_ok (ttl : Nat) (es : List Event) : TraceOK ttl (trace (init ttl) es) :=
  trace_ok es .advanced (runInv_init ttl)

/-- in particular the verdict on any step of the model, from any reachable state, is `holds` -/
theorem model_verdict_none (ttl : Nat) (es : List Event) (e : Event) :
    verdict ttl es.reverse (observe (run ttl es) .advanced) e (step (run ttl es) e).2 = none := by
  rw [verdict_none_iff]
  exact step_ok (run_inv ttl es) .advanced e

/-! ## ties: the atomic steps of the event model vs the source (facts regenerated from /repo by tools/timerfacts)

  The `tie_*` theorems are evaluations (`decide +kernel`, the last one `rfl`) over the tables of
  Generated/Timers.lean. Line numbers are carried by the facts for the reader only; no theorem mentions them. -/
/-- a collector configured without a lifetime (TemplateTTL = 0) keeps UDP templates for the protocol's default,
    `entities.TemplateTTL` = 1800 s (RFC 7011 suggests three times the 600 s refresh interval) - not for the refresh
    interval, and not forever; any other configured value is taken as it is. The constant is regenerated from the
    source on every run, so both halves are ties: to the constructor's rule and to the constant. -/
theorem default_lifetime_is_the_template_ttl_constant :
    effectiveTTL 0 = Generated.cTemplateTTL ∧ Generated.cTemplateTTL = 1800 ∧
    Generated.cTemplateTTL = 3 * Generated.cTemplateRefreshTimeOut ∧ ∀ t, 0 < t → effectiveTTL t = t := by
  refine ⟨rfl, by decide, by decide, ?_⟩
  intro t ht
  simp [effectiveTTL, Nat.ne_of_gt ht]

section Ties
open Generated.TimerFacts

/-- what the ties compare of a statement: its kind and its detail (never its line) -/
def tieSig (e : Ev) : String × String := (e.kind, e.detail)

/-- the statement kinds that operate on cp.mutex -/
def tieMutexKinds : List String := ["lock", "rlock", "unlock", "runlock", "defer-unlock", "defer-runlock"]

/-- a path through addTemplate without its mutex statements -/
def tieTimerPart (p : List Ev) : List (String × String) :=
  (p.filter (fun e => !tieMutexKinds.contains e.kind)).map tieSig

/-- the statements of deleteTemplateWithConds whose relative order matters -/
def tieOrderKinds : List String :=
  tieMutexKinds ++ ["range-conds", "call-cond", "end-range-conds", "stop-timer", "arm-AfterFunc", "arm-Reset",
                    "delete-template-entry", "delete-domain-entry", "delete-other", "call-cp", "go", "defer"]

/-- the statements between `for .. range condFns {` and its closing brace -/
def tieLoopBody (l : List Ev) : List Ev :=
  ((l.dropWhile (fun e => e.kind != "range-conds")).drop 1).takeWhile (fun e => e.kind != "end-range-conds")

/-- the two shapes of the UDP part of addTemplate: read the clock once, assign expiryTime, THEN arm the timer -/
def tieNewTimerPath : List (String × String) :=
  [("call-cp", "clock.Now"), ("assign-expiryTime", "cp.clock.Now().Add(cp.templateTTL)"), ("arm-AfterFunc", "cp.templateTTL")]
def tieRefreshPath : List (String × String) :=
  [("call-cp", "clock.Now"), ("assign-expiryTime", "cp.clock.Now().Add(cp.templateTTL)"), ("arm-Reset", "cp.templateTTL")]

/-- Pins: `Event.tpl` is ONE step of the model (Timers.next: store / refresh the template, set its expiry and
    arm or reset its timer, all in one transition). In the source every path through addTemplate starts with
    `cp.mutex.Lock(); defer cp.mutex.Unlock()`, never touches the mutex again, and so runs under the write
    lock from its first to its last interesting statement: no callback's deletion step and no other packet's
    addTemplate can fall between the assignment of expiryTime and the arming of the timer.
    No input can exhibit a violation: the harness runs one packet / one callback step at a time, so a window
    opened by releasing the lock inside addTemplate is never entered by anything. -/
theorem tie_add_template_is_one_locked_step :
    addTemplatePaths.isEmpty = false ∧
    addTemplatePaths.all (fun p =>
      (p.filter (fun e => tieMutexKinds.contains e.kind)).map (·.kind) == ["lock", "defer-unlock"] &&
      (p.take 2).map (·.kind) == ["lock", "defer-unlock"] &&
      p.all (fun e => e.held == 2)) = true := by decide +kernel

/-- Pins: in the model's `tpl` step the clock stands still - the template's expiry and its timer's deadline
    are both `now + ttl` for the same `now` (invariant clause armedOwner: deadline = expiry), which is what
    makes a callback that starts at or after the deadline find the template expired. The source reads the
    clock twice in real time (cp.clock.Now() for expiryTime, and again inside AfterFunc / Reset), so what
    holds there is only `expiryTime <= deadline`, and only BECAUSE expiryTime is assigned first: on every
    path through addTemplate that does anything for UDP, cp.clock.Now() is read once,
    `expiryTime = now.Add(cp.templateTTL)` is assigned, and only then is the timer armed, with the same
    cp.templateTTL, by exactly one of AfterFunc (new template) and Reset (refresh); no path assigns without
    arming, arms without assigning, arms twice or stops the timer; both shapes occur.
    No input can exhibit a violation: were the assignment moved after the arming, real time passing between
    the two would let the callback find the template "not yet expired" with nothing left to re-arm the
    timer - but the harness clock moves only between steps, so within addTemplate both reads return the
    same instant in any order. -/
theorem tie_expiry_assigned_before_timer_armed :
    addTemplatePaths.all (fun p => tieTimerPart p == [] || tieTimerPart p == tieNewTimerPath || tieTimerPart p == tieRefreshPath) = true ∧
    addTemplatePaths.any (fun p => tieTimerPart p == tieNewTimerPath) = true ∧
    addTemplatePaths.any (fun p => tieTimerPart p == tieRefreshPath) = true := by decide +kernel

/-- Pins: a timer callback is exactly two steps of the model, `cbReadNow` (read the clock) and `cbFinish`
    (ONE atomic test-and-delete: Timers.next deletes iff the template stored under the key has
    `expiry <= nowRead`, test and deletion in the same transition). In the source there is one AfterFunc
    call, in addTemplate, and it is handed a function literal whose calls - klog aside - are, in a straight
    line (depth 0: no `if`, no loop, no early `return`, no `go` / `defer`): `now := cp.clock.Now()` and then
    ONE cp.deleteTemplateWithConds(.., cond). `cond` is a function literal over the STORED template (its
    parameter, not a variable captured from addTemplate) that returns `!T.expiryTime.After(now)`, i.e.
    expiry <= nowRead with the `now` bound above, reads expiryTime once, and uses neither the receiver nor
    anything else. The callback calls no other deletion function (not the unconditional deleteTemplate, no
    `delete`, no timer operation), conditions are passed to deleteTemplateWithConds by the timer callback
    only, and no deletion function is called with cp.mutex held.
    No input can exhibit a violation: a callback that tests expiryTime in one critical section and deletes
    in another (test under RLock, then the unconditional deleteTemplate) loses a refresh that lands between
    the two - but the harness runs `cbfin` as one uninterrupted call, no packet is ever processed inside it. -/
theorem tie_callback_is_one_conditional_delete :
    timerCallbacks.length = 1 ∧
    timerCallbacks.all (fun cb =>
      cb.inFunc == "addTemplate" && cb.isFuncLit &&
      (cb.order.filter (fun e => e.kind != "log")).map (fun e => (e.kind, e.detail, e.depth)) ==
        [("call-cp", "clock.Now", 0), ("bind-now", "now", 0), ("call-cp", "deleteTemplateWithConds", 0)] &&
      cb.conds.length == 1 &&
      cb.conds.all (fun c =>
        c.isFuncLit && c.param != "" && c.paramExpiryReads == 1 && c.otherExpiryReads == 0 &&
        c.cmp == [("After", "now")] && !c.usesRecv && c.ret == "!T.expiryTime.After(now)" &&
        c.order.map (·.kind) == ["read-expiryTime", "call-other", "return"])) = true ∧
    (deleteCalls.filter (fun d => d.unit == "addTemplate/timer-callback")).map (fun d => (d.callee, d.conds)) =
      [("deleteTemplateWithConds", 1)] ∧
    (deleteCalls.filter (fun d => d.conds != 0)).all (fun d => d.unit == "addTemplate/timer-callback") = true ∧
    deleteCalls.all (fun d => d.held == 0) = true := by decide +kernel

/-- Pins: what `cbFinish` (and `badTpl`, through the unconditional deleteTemplate = deleteTemplateWithConds
    without conditions) does in ONE step: look the template up, evaluate the condition on it, and - only if
    it holds - stop its timer and remove it (TState.delete). In the source deleteTemplateWithConds takes the
    WRITE lock (`cp.mutex.Lock()`, not RLock) with a deferred unlock as its first statements and never
    touches the mutex again; the loop over condFns comes next and its body is `if !condFn(..) { return false }`
    (a failing condition leaves the function before anything is changed); `expiryTimer.Stop()` comes AFTER
    the loop, `delete(cp.templatesMap[..], ..)` after both, unconditionally; everything at lock state 2.
    So the condition is evaluated, the timer stopped and the entry removed in one critical section, and a
    template whose condition fails keeps its (possibly re-armed) timer.
    No input can exhibit a violation of the locking part (a read lock, or a lock released between condition
    and deletion): nothing runs concurrently with `cbfin` in the harness. (The order part alone - Stop()
    before the conditions - is visible to inputs; it is pinned here all the same because the theorem
    `stored_has_expiry_pending` rests on it.) -/
theorem tie_conditional_delete_order :
    (deleteTemplateWithCondsOrder.filter (fun e => tieOrderKinds.contains e.kind)).map (fun e => (e.kind, e.depth, e.held)) =
      [("lock", 0, 2), ("defer-unlock", 0, 2), ("range-conds", 0, 2), ("call-cond", 1, 2), ("end-range-conds", 0, 2),
       ("stop-timer", 1, 2), ("delete-template-entry", 0, 2), ("delete-domain-entry", 1, 2)] ∧
    (tieLoopBody deleteTemplateWithCondsOrder).map (fun e => (e.kind, e.depth)) = [("call-cond", 1), ("if", 1), ("return", 2)] ∧
    ((tieLoopBody deleteTemplateWithCondsOrder).filter (fun e => e.kind == "return")).map (·.detail) = ["false"] ∧
    deleteTemplateOrder.map (·.kind) = ["call-cp", "return"] ∧
    (deleteTemplateOrder.filter (fun e => e.kind == "call-cp")).map (·.detail) = ["deleteTemplateWithConds"] := by decide +kernel

/-- Pins: `expiry` is a field of the model's stored template that only the `tpl` step writes and only the
    `cbFinish` step reads, both atomic. In the source the field template.expiryTime (a time.Time) is
    written in exactly one place - addTemplate, lock state 2 (write lock held) - and read in exactly one
    place - the deletion condition of the timer callback, which runs inside deleteTemplateWithConds' write
    lock (tie_conditional_delete_order; its own lexical lock state is 0 because it is a function literal).
    A new reader or writer anywhere in pkg/collector - e.g. a helper that tests expiryTime under the read
    lock, outside the deleting critical section - changes this list.
    No input can exhibit a violation: an access outside the write lock matters only to a concurrent
    goroutine, and the harness has none. -/
theorem tie_expiryTime_accessors :
    expiryTimeAccesses.map (fun a => (a.unit, a.write, a.held)) =
      [("addTemplate", true, 2), ("addTemplate/timer-callback/delete-cond", false, 0)] ∧
    templateFields.contains ("expiryTime", "time.Time") = true ∧
    templateFields.contains ("expiryTimer", "timer") = true := by decide +kernel

/-- the PRODUCTION clock is the standard library's: `realClock.Now` is `time.Now()` and `realClock.AfterFunc` hands out
    the `*time.Timer` of `time.AfterFunc` itself, whose `Stop` / `Reset` contract is the one the model's timer events
    transcribe (a `Reset` re-arms the timer also after it has fired - that is what keeps a template alive whose refresh
    arrives while its expiry callback is in flight). The harness runs the collector on ITS clock, so a wrapper around the
    real timer with other semantics is invisible to every input it can generate. -/
theorem tie_production_clock_is_the_standard_timer :
    realClockMethods = [("AfterFunc", ["return time.AfterFunc(d, f)"]), ("Now", ["return time.Now()"])] := rfl

end Ties

/-! ## non-vacuity -/

/-- a reachable state with a fired-but-pending callback (clock not read yet) and a template that
    was refreshed after the timer fired: the timer is armed again AND the old callback is in flight -/
example : let s := run 3 [.tpl (1, 256), .advance 3, .fire 0, .tpl (1, 256)]
    s.pending = [⟨0, 0, (1, 256), none⟩] ∧ s.armed = [⟨0, (1, 256), 6⟩] ∧ s.tpls = [((1, 256), ⟨0, 6, 3⟩)] := by decide +kernel

/-- the stale callback then reads the clock late and deletes the refreshed template - but only after
    the refreshed lifetime is over (hypotheses of `gone_after_timer_ran` / `no_early_drop` are met) -/
example : let es := [Event.tpl (1, 256), .advance 3, .fire 0, .tpl (1, 256), .advance 3, .cbReadNow 0]
    (∃ cb ∈ (run 3 es).pending, cb.nowRead = some 6 ∧ lastRefresh es cb.key = some 3) ∧
    (run 3 es).stored (1, 256) = true ∧ (step (run 3 es) (.cbFinish 0)).1.stored (1, 256) = false ∧
    (step (run 3 es) (.cbFinish 0)).1.armed = [] := by decide +kernel

/-- a callback of a deleted object meets a NEW object under the same key and leaves it alone -/
example : let es := [Event.tpl (1, 256), .advance 3, .fire 0, .cbReadNow 0, .badTpl (1, 256), .tpl (1, 256)]
    (run 3 es).tpls = [((1, 256), ⟨1, 6, 3⟩)] ∧ (step (run 3 es) (.cbFinish 0)).1.tpls = [((1, 256), ⟨1, 6, 3⟩)] ∧
    (step (run 3 es) (.cbFinish 0)).2.res = .finished false := by decide +kernel

/-- hypotheses of `usable_within_ttl` are satisfiable with timers firing in between -/
example : let es := [Event.tpl (1, 256), .advance 3, .fire 0, .tpl (1, 256), .cbReadNow 0, .cbFinish 0, .advance 2]
    lastRefresh es (1, 256) = some 3 ∧ noBadSince es (1, 256) = true ∧ clock es < 3 + 3 := by decide +kernel

/-- stored template with NO armed timer (second disjunct of `stored_has_expiry_pending`) -/
example : let s := run 3 [.tpl (1, 256), .tpl (2, 257), .advance 4, .fire 1]
    s.armed = [⟨0, (1, 256), 3⟩] ∧ s.stored (2, 257) = true ∧ s.pending = [⟨0, 1, (2, 257), none⟩] := by decide +kernel

/-- events that are not enabled report `disabled` -/
example : (step (run 3 [.tpl (1, 256)]) (.fire 0)).2.res = .disabled ∧
    (step (run 3 [.tpl (1, 256), .advance 3, .fire 0]) (.cbFinish 0)).2.res = .disabled := by decide +kernel

end Ipfix.C10
