/-
  C03 - Collector decoding is total and exact on arbitrary bytes.
-/
import IpfixModel.Lemmas.Specifier
import IpfixModel.Lemmas.TemplateStore
import IpfixModel.Model.Registry
namespace Ipfix.C03
open Outcome

/-- every element the registry can return is well-formed (fixed-width types carry their natural
    width, strings are variable-length): re-checked whenever the registry changes -/
def RegistryWF (lookup : Nat → Nat → Option IE) : Prop :=
  ∀ ent id ie, lookup ent id = some ie → ie.WF

/-- the invariant on the collector's template store -/
def TemplatesWF (s : CState) : Prop := ∀ p ∈ s.templates, ∀ ie ∈ p.2, ie.WF

/-! ## Tie: the regenerated registry satisfies the hypothesis of the safety theorems -/

theorem tie_registry_wf : ∀ ie ∈ registry, ie.WF := by decide +kernel

theorem registry_wf : RegistryWF lookupIE := by
  intro ent id ie h
  unfold lookupIE at h
  exact tie_registry_wf ie (List.mem_of_find?_eq_some h)

/-! ## Totality: no crash, no non-termination, for every template state and every byte string -/

/-- the record loop never crashes and always terminates -/
theorem decodeRecords_safe (mode : Mode) (tpl : Template) (body : Bytes) (hwf : ∀ ie ∈ tpl, ie.WF) :
    Safe (decodeRecords mode tpl body) := by
  unfold decodeRecords
  split
  · exact safe_err
  · exact decodeRecordsFuel_safe mode tpl hwf (by omega) _ body (by omega)

/-- template-set decoding never crashes and keeps the store well-formed -/
theorem decodeTemplateSet_safe (lookup : Nat → Nat → Option IE) (hreg : RegistryWF lookup) (mode : Mode)
    (s : CState) (hs : TemplatesWF s) (dom : Nat) (body : Bytes) :
    Safe (decodeTemplateSet lookup mode s dom body).2 ∧ TemplatesWF (decodeTemplateSet lookup mode s dom body).1 := by
  unfold decodeTemplateSet
  split
  · rename_i t0 t1 c0 c1 r
    simp only
    have hsafe := decodeSpecifiers_safe lookup mode (c0.toNat * 256 + c1.toNat) r
    cases hd : decodeSpecifiers lookup mode (c0.toNat * 256 + c1.toNat) r with
    | ok ies =>
      refine ⟨safe_ok _, ?_⟩
      intro p hp
      rcases CState.mem_insert hp with rfl | ⟨hp, _⟩
      · exact decodeSpecifiers_wf hreg hd
      · exact hs p hp
    | err =>
      refine ⟨safe_err, ?_⟩
      intro p hp
      exact hs p (CState.mem_erase hp).1
    | panic => exact absurd hd hsafe.1
    | diverge => exact absurd hd hsafe.2
  · exact ⟨safe_err, hs⟩

/-- data-set decoding never crashes, whatever well-formed template is in force -/
theorem decodeDataSet_safe (mode : Mode) (s : CState) (hs : TemplatesWF s) (dom tid : Nat) (body : Bytes) :
    Safe (decodeDataSet mode s dom tid body) := by
  cases hl : s.lookup (dom, tid) with
  | none =>
    rw [decodeDataSet_none hl]
    exact safe_err
  | some tpl =>
    rw [decodeDataSet_some hl]
    exact safe_bind (decodeRecords_safe mode tpl body (hs _ (CState.lookup_mem hl))) (fun _ _ => safe_ok _)

/-- C03, totality: for every byte string, every decoding mode and every (well-formed) template
    state, decoding a packet terminates without crashing, and the template state stays well-formed -/
theorem decodePacket_safe (lookup : Nat → Nat → Option IE) (hreg : RegistryWF lookup) (mode : Mode)
    (s : CState) (hs : TemplatesWF s) (pkt : Bytes) :
    Safe (decodePacket lookup mode s pkt).2 ∧ TemplatesWF (decodePacket lookup mode s pkt).1 := by
  cases hp : parseHeader pkt with
  | none =>
    rw [decodePacket_of_no_header hp]
    exact ⟨safe_err, hs⟩
  | some hb =>
    obtain ⟨h, body⟩ := hb
    by_cases hv : h.version = 10
    · rw [decodePacket_of_header hp hv]
      split
      · have := decodeTemplateSet_safe lookup hreg mode s hs h.dom body
        exact ⟨safe_bind this.1 (fun _ _ => safe_ok _), this.2⟩
      · exact ⟨safe_bind (decodeDataSet_safe mode s hs h.dom h.setID body) (fun _ _ => safe_ok _), hs⟩
    · rw [decodePacket_of_version hp hv]
      exact ⟨safe_err, hs⟩

/-- the collector after a history of packets -/
def runPackets (lookup : Nat → Nat → Option IE) (mode : Mode) (s : CState) : List Bytes → CState
  | [] => s
  | p :: ps => runPackets lookup mode (decodePacket lookup mode s p).1 ps

/-- every template state reachable from the empty one by ANY history of packets is well-formed ... -/
theorem reachable_wf (lookup : Nat → Nat → Option IE) (hreg : RegistryWF lookup) (mode : Mode)
    (s : CState) (hs : TemplatesWF s) (hist : List Bytes) : TemplatesWF (runPackets lookup mode s hist) := by
  induction hist generalizing s with
  | nil => exact hs
  | cons p ps ih => exact ih _ (decodePacket_safe lookup hreg mode s hs p).2

/-- ... hence decoding is total after any history (the "whatever templates it holds" quantifier),
    with the shipped registry -/
theorem decode_total (mode : Mode) (hist : List Bytes) (pkt : Bytes) :
    Safe (decodePacket lookupIE mode (runPackets lookupIE mode {} hist) pkt).2 :=
  (decodePacket_safe lookupIE registry_wf mode _
    (reachable_wf lookupIE registry_wf mode {} (by intro p hp; simp at hp) hist) pkt).1

/-! ## Bounded output: every delivered record consumed at least one byte of the set body -/

theorem decode_bounded {mode : Mode} {tpl : Template} {body : Bytes} {recs : List (List Value)}
    (h : decodeRecords mode tpl body = .ok recs) :
    0 < minRecordLen tpl ∧ recs.length * minRecordLen tpl ≤ body.length ∧ recs.length ≤ body.length := by
  obtain ⟨hmin, hf⟩ := decodeRecords_eq_ok h
  obtain ⟨raw, pad, hsl, hmap⟩ := decodeRecordsFuel_ok hf
  have hb := (slices_bound hsl).2
  rw [show raw.length = recs.length by simpa using congrArg List.length hmap] at hb
  have := Nat.mul_le_mul_left recs.length hmin
  omega

/-! ## Exactness against the independent reading of RFC 7011 -/

/-- C03, exactness: when a data set decodes, its body is the concatenation of complete records -
    every field at its full encoded width, in template order - followed only by padding shorter
    than the shortest possible record, and the delivered values are the per-type decodings of
    exactly those field payloads. So no field is built from fewer bytes than its width and no
    record is conjured from leftover bytes. -/
theorem decode_exact {mode : Mode} {tpl : Template} {body : Bytes} {recs : List (List Value)}
    (h : decodeRecords mode tpl body = .ok recs) :
    ∃ raw pad, Slices tpl body raw pad ∧ pad.length < minRecordLen tpl ∧
      raw.map (decodePayloads mode tpl) = recs.map Outcome.ok := by
  obtain ⟨raw, pad, hsl, hmap⟩ := decodeRecordsFuel_ok (decodeRecords_eq_ok h).2
  exact ⟨raw, pad, hsl, (slices_bound hsl).1, hmap⟩

/-- C03, exactness (completeness half): conversely, a body that IS the concatenation of complete
    records followed by padding shorter than the shortest record is not rejected and yields exactly
    those records - so the decoder accepts precisely the bodies the independent reading of RFC 7011
    describes (given decodable payloads), and the slicing is unique. -/
theorem decode_complete {tpl : Template} (hmin : 0 < minRecordLen tpl) {body : Bytes}
    {raw : List (List Bytes)} {pad : Bytes} (hs : Slices tpl body raw pad) {vals : List (List Value)}
    (hd : raw.map (decodePayloads .keep tpl) = vals.map Outcome.ok) :
    decodeRecords .keep tpl body = .ok vals :=
  decodeRecords_of_slices hmin hs hd

/-- two slicings of the same body into complete records with decodable payloads deliver the same
    values: the reading is unambiguous -/
theorem slicing_unambiguous {tpl : Template} (hmin : 0 < minRecordLen tpl) {body : Bytes}
    {raw raw' : List (List Bytes)} {pad pad' : Bytes} (hs : Slices tpl body raw pad) (hs' : Slices tpl body raw' pad')
    {vals vals' : List (List Value)} (hd : raw.map (decodePayloads .keep tpl) = vals.map Outcome.ok)
    (hd' : raw'.map (decodePayloads .keep tpl) = vals'.map Outcome.ok) : vals = vals' := by
  have h1 := decode_complete hmin hs hd
  have h2 := decode_complete hmin hs' hd'
  rw [h1] at h2
  exact Outcome.ok.inj h2

/-- the registry returns the element that was asked for -/
def LookupFaithful (lookup : Nat → Nat → Option IE) : Prop :=
  ∀ ent id ie, lookup ent id = some ie → ie.id = id ∧ ie.ent = ent

theorem lookupIE_faithful : LookupFaithful lookupIE := by
  intro ent id ie h
  have := List.find?_some h
  simp at this
  exact ⟨this.2, this.1⟩

/-- C03, template exactness: the delivered fields carry the wire's element ids and enterprise
    numbers, in order (field count included). -/
theorem decode_template_exact {lookup : Nat → Nat → Option IE} (hl : LookupFaithful lookup) {mode : Mode}
    {n : Nat} {b : Bytes} {ies : List IE} (h : decodeSpecifiers lookup mode n b = .ok ies) :
    ∃ specs, wireSpecs n b = some specs ∧
      ies.map (fun ie => (ie.id, ie.ent)) = specs.map (fun t => (t.1, t.2.2)) := by
  induction n generalizing b ies with
  | zero => cases h; exact ⟨[], rfl, rfl⟩
  | succ n ih =>
    obtain ⟨ie, r, ies', h1, h2, rfl⟩ := decodeSpecifiers_succ_eq_ok h
    obtain ⟨id, elen, ent, hr, hres⟩ := decodeSpecifier_ok h1
    obtain ⟨specs, hw, hm⟩ := ih h2
    have hie : ie.id = id ∧ ie.ent = ent.getD 0 := by
      rcases hres with ⟨hk, _⟩ | ⟨_, _, _, rfl⟩
      · exact hl _ _ _ hk
      · exact ⟨rfl, rfl⟩
    refine ⟨(id, elen, ent.getD 0) :: specs, by rw [wireSpecs_succ n hr, hw]; rfl, ?_⟩
    simp only [List.map_cons, hm, hie]

/-! ## Non-vacuity -/

def tplExample : Template :=
  [⟨"sourceIPv4Address", 8, .ipv4Address, 0, 4⟩, ⟨"protocolIdentifier", 4, .unsigned8, 0, 1⟩,
   ⟨"sourcePodName", 101, .string, 56506, 65535⟩]

example : (∀ ie ∈ tplExample, ie.WF) ∧
    decodeRecords .strict tplExample [10, 0, 0, 1, 6, 2, 104, 105] =
      .ok [[.bytes [10, 0, 0, 1], .num 6, .bytes [104, 105]]] := by decide
/-- the input that used to crash the collector (D1): a 3-byte body for a record of at least 6 bytes
    is now padding, and a truncated record is an error -/
example : decodeRecords .strict tplExample [10, 0, 0] = .ok [] ∧
    decodeRecords .strict tplExample [10, 0, 0, 1, 6, 200, 104, 105] = .err := by decide
/-- a template without fields defines no data (used to loop forever, D4) -/
example : decodeRecords .strict [] [1, 2, 3] = .err := by decide

end Ipfix.C03
