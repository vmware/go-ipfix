/-
  C11 - TCP framing: the same messages however the byte stream is segmented.
  Property theorems, with `run` (what their statements are about) and the toy decoder of the examples; helper
  lemmas, and the simulation relation `Tracks` / `Rel` between the model's collecting process and the
  specification's, in Lemmas/Framer.lean.

  Model: Model/Framer.lean (`feed` = a segment arrives and the reader goroutine of
  handleTCPClient runs until it blocks again or returns), for ANY decoder that rejects byte
  strings shorter than 4 bytes; instantiated with the collector's decodePacket at the end.
  Specification: Spec/C11.lean (`frames` = the declarative splitting of the whole stream,
  `runFrames` = decode in order until the first failure, `expectSeg` = what a segment must
  cause). All statements are for streams, segmentations and message counts of any size.
-/
import IpfixModel.Lemmas.Framer
import IpfixModel.Spec.C11
namespace Ipfix.C11
open Ipfix.Framer

variable {σ μ : Type}

/-- what a connection has been through: segments arriving one by one on a fresh connection -/
def run (dec : Decoder σ μ) (st : σ) (segs : List Bytes) : FState σ μ :=
  segs.foldl (feed dec) (FState.init st)

/-! ## segmentation invariance -/

/-- any further segmentation of what follows a segment = the concatenation (any state, including
    one whose buffer holds a partial message) -/
theorem feed_segments (dec : Decoder σ μ) (s : FState σ μ) (a : Bytes) (segs : List Bytes) :
    segs.foldl (feed dec) (feed dec s a) = feed dec s (a ++ segs.flatten) := by
  induction segs generalizing a with
  | nil => simp
  | cons b rest ih => simp [List.foldl_cons, feed_feed, ih, List.append_assoc]

/-- C11: however the stream is cut into segments (or coalesced), the connection ends in the
    state - delivered messages, decoder state, open/closed, buffered rest - it reaches when the
    whole stream arrives as one segment -/
theorem segmentation_invariant (dec : Decoder σ μ) (st : σ) (segs : List Bytes) :
    run dec st segs = feed dec (FState.init st) segs.flatten := by
  unfold run
  cases segs with
  | nil => rfl
  | cons a rest => simp [List.foldl_cons, feed_segments]

/-- two segmentations of the same byte stream are indistinguishable -/
theorem same_stream_same_delivery (dec : Decoder σ μ) (st : σ) (segs segs' : List Bytes)
    (h : segs.flatten = segs'.flatten) : run dec st segs = run dec st segs' := by
  rw [segmentation_invariant, segmentation_invariant, h]

/-- the incremental reader agrees with the declarative specification: split the whole stream
    into length-prefixed frames, decode them in order until the first failure -/
theorem run_eq_spec (dec : Decoder σ μ) (st : σ) (segs : List Bytes) :
    run dec st segs = specState dec (FState.init st) (frames segs.flatten) := by
  rw [segmentation_invariant, feed_spec dec _ rfl]
  simp [FState.init]

/-! ## delivered frames are contiguous, non-overlapping slices of the stream -/

/-- C11: the frames partition the stream (contiguous, in order, nothing skipped, nothing used
    twice); the i-th delivered message is the decoding of the i-th frame and of nothing else, and
    that frame is exactly as long as its own header says - a message is never assembled from bytes
    of two messages; the stream is the delivered frames' bytes followed by what was not consumed,
    which for an open connection is exactly its buffer. -/
theorem frames_partition (dec : Decoder σ μ) (st : σ) (segs : List Bytes) :
    (frames segs.flatten).1.flatten ++ (frames segs.flatten).2 = segs.flatten ∧
    (run dec st segs).out.length ≤ (frames segs.flatten).1.length ∧
    (∀ (i : Nat) (m : μ), (run dec st segs).out[i]? = some m →
        ∃ f a, (frames segs.flatten).1[i]? = some f ∧ WFFrame f ∧ (dec.run a f).2 = some m) ∧
    segs.flatten = ((frames segs.flatten).1.take (run dec st segs).out.length).flatten ++
        (((frames segs.flatten).1.drop (run dec st segs).out.length).flatten ++ (frames segs.flatten).2) ∧
    ((run dec st segs).closed = false →
        (run dec st segs).buf = (frames segs.flatten).2 ∧
        (run dec st segs).out.length = (frames segs.flatten).1.length) := by
  have hpart : (frames segs.flatten).1.flatten ++ (frames segs.flatten).2 = segs.flatten :=
    framesFuel_flatten _ _
  rw [run_eq_spec]
  simp only [specState_out, specState_closed, specState_buf, FState.init, List.nil_append]
  refine ⟨hpart, runFrames_length_le _ _ _, ?_, ?_, ?_⟩
  · intro i m h
    obtain ⟨f, a, h1, h2⟩ := runFrames_get dec st _ i m h
    refine ⟨f, a, h1, ?_, h2⟩
    exact framesFuel_wf _ _ f (List.mem_of_getElem? h1) (dec_some_length dec h2)
  · rw [← List.append_assoc, ← List.flatten_append, List.take_append_drop, hpart]
  · intro hc
    simp only [hc, Bool.false_eq_true, if_false, true_and]
    exact (runFrames_open dec st _ hc).1

/-! ## after the first undecodable message -/

/-- a closed connection stays closed and delivers nothing more, whatever arrives -/
theorem closed_absorbing (dec : Decoder σ μ) (s : FState σ μ) (hc : s.closed = true) (more : List Bytes) :
    more.foldl (feed dec) s = s := by
  induction more with
  | nil => rfl
  | cons a rest ih => rw [List.foldl_cons, feed_closed dec s hc, ih]

/-- C11: the stream is `good` (messages that decode, in this order, from decoder state `st`),
    then a complete frame `bad` that does not decode, then anything. However it is segmented:
    exactly the messages of `good` are delivered, the connection is closed, and whatever arrives
    afterwards changes nothing. (`bad` is a frame by its own header, which for a length field
    below 4 lies partly in `rest`.) -/
theorem stops_at_first_bad (dec : Decoder σ μ) (st st1 : σ) (good : List Bytes) (ms : List μ)
    (bad rest : Bytes) (hgood : ∀ w ∈ good, WFFrame w) (hdec : runFrames dec st good = (st1, ms, false))
    (hbad : peekLen (bad ++ rest) = some bad.length) (hfail : (dec.run st1 bad).2 = none)
    (segs : List Bytes) (hsegs : segs.flatten = good.flatten ++ (bad ++ rest)) :
    (run dec st segs).out = ms ∧ (run dec st segs).closed = true ∧
    ∀ more : List Bytes, run dec st (segs ++ more) = run dec st segs := by
  -- `bad` is the first frame of what follows `good`, whatever comes behind it
  obtain ⟨t, r, hfr⟩ : ∃ t r, frames (bad ++ rest) = (bad :: t, r) := by
    rw [frames, framesFuel_front hbad (by simp), List.take_left' rfl]
    exact ⟨_, _, rfl⟩
  have hrun : runFrames dec st (good ++ bad :: t) = ((dec.run st1 bad).1, ms, true) := by
    have hopen : (runFrames dec st good).2.2 = false := by rw [hdec]
    rw [runFrames_append_open dec st good _ hopen, hdec]
    simp only [runFrames]
    rcases hd : dec.run st1 bad with ⟨st', _ | m⟩
    · simp
    · rw [hd] at hfail
      cases hfail
  have hstate : (run dec st segs).out = ms ∧ (run dec st segs).closed = true := by
    rw [run_eq_spec, hsegs, frames_flatten_wf good hgood, hfr, specState_out, specState_closed]
    simp [FState.init, hrun]
  refine ⟨hstate.1, hstate.2, ?_⟩
  intro more
  show (segs ++ more).foldl (feed dec) (FState.init st) = _
  rw [List.foldl_append]
  exact closed_absorbing dec _ hstate.2 more

/-! ## well-formed messages that decode are delivered, all of them, in order -/

/-- C11: the stream is the concatenation of messages, each as long as its header says, which
    the decoder accepts in this order from state `st` (hypotheses on the decoder, not on who
    produced the bytes). However the stream is segmented, exactly these messages are delivered, in
    order; the connection stays open with an empty buffer. -/
theorem round_trip (dec : Decoder σ μ) (st st' : σ) (wires : List Bytes) (ms : List μ)
    (hw : ∀ w ∈ wires, WFFrame w) (hdec : runFrames dec st wires = (st', ms, false))
    (segs : List Bytes) (hsegs : segs.flatten = wires.flatten) :
    (run dec st segs).out = ms ∧ (run dec st segs).closed = false ∧
    (run dec st segs).buf = [] ∧ (run dec st segs).st = st' := by
  have hfr : frames segs.flatten = (wires, []) := by
    have := frames_flatten_wf wires hw []
    rw [List.append_nil, frames_nil, List.append_nil] at this
    rw [hsegs, this]
  rw [run_eq_spec, hfr, specState_out, specState_closed, specState_buf, specState_st]
  simp [FState.init, hdec]

/-! ## other connections are unaffected -/

/-- C11: a segment arriving on connection `a` (and whatever it causes: deliveries, a decoding
    failure, the close) leaves the buffer and the open/closed state of every other connection as
    they were. What connections share is the decoder state, threaded through in delivery order. -/
theorem connections_independent (dec : Decoder σ μ) (sys : Sys σ) (a b : Nat) (hab : b ≠ a) (chunk : Bytes) :
    (feedConn dec sys a chunk).1.conns b = sys.conns b := by
  cases h : sys.conns a with
  | none => rw [feedConn_none dec h]
  | some cn =>
    rw [feedConn_some dec h]
    exact if_neg hab

theorem eof_independent (sys : Sys σ) (a b : Nat) (hab : b ≠ a) : (eofConn sys a).conns b = sys.conns b := by
  unfold eofConn
  split
  · rfl
  · simp [hab]

/-- on its own connection a segment does what the single-connection reader does from the shared
    decoder state of that moment -/
theorem feedConn_own (dec : Decoder σ μ) (sys : Sys σ) (a : Nat) (cn : Conn) (h : sys.conns a = some cn) (chunk : Bytes) :
    (feedConn dec sys a chunk).2 = (feed dec (view sys.st cn) chunk).out ∧
    (feedConn dec sys a chunk).1.st = (feed dec (view sys.st cn) chunk).st ∧
    (feedConn dec sys a chunk).1.conns a =
      some { buf := (feed dec (view sys.st cn) chunk).buf, closed := (feed dec (view sys.st cn) chunk).closed } := by
  rw [feedConn_some dec h]
  exact ⟨rfl, rfl, if_pos rfl⟩

/-! ## the model meets the executable specification (`expectSeg` / `holdsSeg` of Spec/C11.lean) -/

theorem tracks_fresh : Tracks {} {} := ⟨rfl, fun _ => ⟨rfl, nofun⟩⟩

/-- one segment, ANY decoder state (i.e. whatever the other connections did in between): the
    messages the specification expects are the messages the reader delivers, the decoder states
    agree, and the specification keeps describing the connection. The framing of a connection is a
    function of its own bytes only. -/
theorem expectSeg_feed (dec : Decoder σ μ) (sc : SConn) (cn : Conn) (h : Tracks sc cn) (st : σ) (chunk : Bytes) :
    (expectSeg dec st sc chunk).2.2 = (feed dec (view st cn) chunk).out ∧
    (expectSeg dec st sc chunk).1 = (feed dec (view st cn) chunk).st ∧
    Tracks (expectSeg dec st sc chunk).2.1
      { buf := (feed dec (view st cn) chunk).buf, closed := (feed dec (view st cn) chunk).closed } := by
  obtain ⟨hcl, hopen⟩ := h
  cases hc : cn.closed with
  | true =>
    rw [feed_closed dec (view st cn) hc, expectSeg, if_pos (hcl.trans hc)]
    exact ⟨rfl, rfl, hcl, fun h => nomatch hc.symm.trans h⟩
  | false =>
    obtain ⟨hbuf, hall⟩ := hopen hc
    rw [feed_spec dec (view st cn) hc, expectSeg, if_neg (by simp [hcl, hc]), newFrames_eq hall, ← hbuf]
    refine ⟨(List.nil_append _).symm, rfl, rfl, fun hopen' => ?_⟩
    -- still open: every new frame decoded, so all frames of the longer stream are complete messages
    have happ := frames_append sc.stream chunk hall
    rw [← hbuf] at happ
    refine ⟨?_, fun x hx => ?_⟩
    · rw [happ]
      exact if_neg (Bool.eq_false_iff.1 hopen')
    · rw [happ] at hx
      rcases List.mem_append.1 hx with hx | hx
      · exact hall x hx
      · exact (runFrames_open dec st _ hopen').2 x hx

theorem rel_init (st : σ) : Rel ({ st := st } : Sys σ) ({ st := st } : SSys σ) :=
  ⟨rfl, fun _ => Or.inl ⟨rfl, rfl⟩⟩

theorem rel_open (sys : Sys σ) (ss : SSys σ) (h : Rel sys ss) (c : Nat) : Rel (sys.open c) (ss.open c) :=
  rel_update h h.1 c tracks_fresh

theorem rel_eof (sys : Sys σ) (ss : SSys σ) (h : Rel sys ss) (c : Nat) : Rel (eofConn sys c) (ss.eof c) := by
  rw [eofConn, SSys.eof]
  rcases h.2 c with ⟨h1, h2⟩ | ⟨cn, sc, h1, h2, ht⟩
  · rwa [h1, h2]
  · rw [h1, h2]
    exact rel_update h h.1 c ⟨rfl, nofun⟩

/-- C11, executable form: on every history of segments on any number of interleaved connections
    the model delivers, segment by segment, exactly what `Spec.C11` expects - so the predicate
    evaluated on the implementation's observations (`holdsSeg`, `holdsState`) is the predicate
    proved of the model. -/
theorem model_meets_spec (dec : Decoder σ μ) (sys : Sys σ) (ss : SSys σ) (h : Rel sys ss) (c : Nat) (chunk : Bytes) :
    (feedConn dec sys c chunk).2 = (ss.seg dec c chunk).2 ∧
    Rel (feedConn dec sys c chunk).1 (ss.seg dec c chunk).1 := by
  rw [SSys.seg]
  rcases h.2 c with ⟨h1, h2⟩ | ⟨cn, sc, h1, h2, ht⟩
  · rw [feedConn_none dec h1, h2]
    exact ⟨rfl, h⟩
  · rw [feedConn_some dec h1, h2, ← h.1]
    obtain ⟨e1, e2, e3⟩ := expectSeg_feed dec sc cn ht sys.st chunk
    exact ⟨e1.symm, rel_update h e2.symm c e3⟩

theorem model_holdsSeg (render : μ → String) (ms : List μ) : holdsSeg (ms.map render) (ms.map render) = true := by
  simp [holdsSeg, verdict]

theorem model_holdsState (sc : SConn) (cn : Conn) (h : Tracks sc cn) : holdsState sc cn.closed = true := by
  simp [holdsState, h.1]

/-! ## the collector's decoder -/

/-- C11 for the collecting process: decodePacket behind the TCP reader, any registry, any
    decoding mode, any template state: segmentation does not matter -/
theorem ipfix_segmentation_invariant (lookup : Nat → Nat → Option IE) (mode : Mode) (st : CState)
    (segs segs' : List Bytes) (h : segs.flatten = segs'.flatten) :
    run (ipfixDecoder lookup mode) st segs = run (ipfixDecoder lookup mode) st segs' :=
  same_stream_same_delivery _ st segs segs' h

/-- a frame whose length field is below 20 closes the connection (decodePacket needs the
    16-byte message header and a 4-byte set header) -/
theorem ipfix_short_frame_closes (lookup : Nat → Nat → Option IE) (mode : Mode) (st : CState) (f : Bytes)
    (h : f.length < 20) : ((ipfixDecoder lookup mode).run st f).2 = none := by
  simp [ipfixDecoder, ipfixRun, decodePacket_short lookup mode st f h]

/-! ## non-vacuity -/

/-- a toy decoder: a frame decodes to its 5th byte iff that byte is non-zero -/
def toyDecoder : Decoder Nat UInt8 where
  run := fun n b => match b with
    | _ :: _ :: _ :: _ :: x :: _ => if x = 0 then (n + 1, none) else (n + 1, some x)
    | _ => (n, none)
  short := by
    intro st b h
    match b, h with
    | [], _ => rfl
    | [_], _ => rfl
    | [_, _], _ => rfl
    | [_, _, _], _ => rfl
    | _ :: _ :: _ :: _ :: _, h => simp at h; omega

/-- two messages [0,10,0,5,7] [0,10,0,6,9,9], cut inside both: both delivered, once, in order -/
example : (run toyDecoder 0 [[0, 10], [0, 5, 7, 0], [10, 0, 6, 9], [9]]).out = [7, 9] ∧
    (run toyDecoder 0 [[0, 10, 0, 5, 7, 0, 10, 0, 6, 9, 9]]).out = [7, 9] ∧
    (run toyDecoder 0 [[0, 10], [0, 5, 7, 0], [10, 0, 6, 9], [9]]).closed = false := by decide +kernel

/-- the hypotheses of `round_trip` are satisfiable -/
example : (∀ w ∈ [[0, 10, 0, 5, 7], [0, 10, 0, 6, 9, 9]], WFFrame w) ∧
    runFrames toyDecoder 0 [[0, 10, 0, 5, 7], [0, 10, 0, 6, 9, 9]] = (2, [7, 9], false) := by decide +kernel

/-- the hypotheses of `stops_at_first_bad` are satisfiable, with a bad frame that is well-formed
    as a frame (5th byte 0) and with one whose length field is 2 -/
example : runFrames toyDecoder 0 [[0, 10, 0, 5, 7]] = (1, [7], false) ∧
    peekLen ([0, 10, 0, 5, 0] ++ [1, 2, 3]) = some [0, 10, 0, 5, 0].length ∧ (toyDecoder.run 1 [0, 10, 0, 5, 0]).2 = none ∧
    peekLen ([0, 10] ++ [0, 2, 3]) = some [0, 10].length ∧ (toyDecoder.run 1 [0, 10]).2 = none := by decide +kernel

/-- after the bad message nothing is delivered although a good message follows; a second
    connection of the same process still delivers -/
example : (run toyDecoder 0 [[0, 10, 0, 5, 7, 0, 10, 0], [5, 0, 0, 10, 0, 5, 8]]).out = [7] ∧
    (run toyDecoder 0 [[0, 10, 0, 5, 7, 0, 10, 0], [5, 0, 0, 10, 0, 5, 8]]).closed = true := by decide +kernel

example :
    let s0 : Sys Nat := (({ st := 0 } : Sys Nat).open 1).open 2
    let s1 := (feedConn toyDecoder s0 1 [0, 10, 0, 5, 0, 0]).1     -- connection 1 closes
    (s1.conns 1).map (·.closed) = some true ∧
    (feedConn toyDecoder s1 2 [0, 10, 0, 5, 8]).2 = [8] ∧
    (feedConn toyDecoder s1 1 [0, 10, 0, 5, 8]).2 = [] := by decide +kernel

/-- `Tracks` / `Rel` are inhabited beyond the initial state: the specification's expectation for a
    cut message, computed on the whole stream, is what the model delivers -/
example : (expectSeg toyDecoder 0 { stream := [0, 10, 0], closed := false } [5, 7, 0, 10]).2.2 = [7] ∧
    (feed toyDecoder (view 0 { buf := [0, 10, 0], closed := false }) [5, 7, 0, 10]).out = [7] := by decide +kernel

/-- the collector's decoder behind the reader: a template message (observation domain 1,
    template 256, one unknown 4-byte element, lenient mode) cut inside its header and inside
    its body is delivered once; a frame with version 9 closes the connection -/
example :
    let tpl : Bytes := [0, 10, 0, 28, 0, 0, 0, 0, 0, 0, 0, 0, 0, 0, 0, 1, 0, 2, 0, 12, 1, 0, 0, 1, 0x7f, 0xff, 0, 4]
    let s := run (ipfixDecoder (fun _ _ => none) .keep) {} [tpl.take 3, (tpl.drop 3).take 20, tpl.drop 23]
    s.out.length = 1 ∧ s.closed = false ∧ s.buf = [] ∧
    (run (ipfixDecoder (fun _ _ => none) .keep) {} [[0, 9, 0, 20], [0, 0, 0, 0, 0, 0, 0, 0, 0, 0, 0, 1, 0, 2, 0, 4]]).closed = true := by
  decide +kernel

end Ipfix.C11
