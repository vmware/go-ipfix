/-
  C15 - Information-element value codec: exact round trip and length accounting.
-/
import IpfixModel.Lemmas.Wire
import IpfixModel.Lemmas.RecordBuf
namespace Ipfix.C15

/-! ## Tie lemmas: the hand-written model agrees with the regenerated facts -/

/-- the data-type numbering used by the model is the one in pkg/entities/ie.go -/
theorem tie_dataType_codes :
    DataType.all.map DataType.code =
      [0, 1, 2, 3, 4, 5, 6, 7, 8, 9, 10, 11, 12, 13, 14, 15, 16, 17, 18, 19, 20, 21, 22, 255] := by decide +kernel

/-- every fixed-width type's entry in `InfoElementLength` is the width the codec reads and writes -/
theorem tie_tableLen_width :
    ∀ t ∈ DataType.all, ∀ w, t.width = some w → t.tableLen = w := by
  -- the codes (24 look-ups by name) are taken from `tie_dataType_codes`; what is swept is the table of lengths
  refine forall_mem_zip_map (f := DataType.code)
    (P := fun t c => ∀ w, t.width = some w → (Generated.infoElementLength.lookup c).getD 0 = w) ?_
  rw [tie_dataType_codes]
  decide +kernel

/-- variable-length types are marked 65535 in `InfoElementLength` -/
theorem tie_variable_types :
    DataType.octetArray.tableLen = VariableLength ∧ DataType.string.tableLen = VariableLength ∧
    VariableLength = 65535 := by decide +kernel

/-! ## Length accounting -/

/-- the bytes written for an element are exactly its reported length -/
theorem encode_length {ie : IE} {v : Value} {bs : Bytes} (h : encodeElem ie v = some bs) :
    bs.length = elemLength ie v :=
  encodeElem_length h

/-! ## Round trip -/

/-- Encoding an element and reading it back the way the collector does (length prefix, bounds
    check, per-type decode) yields the same value (IP addresses in canonical length), consumes
    exactly the bytes written, and leaves whatever follows untouched. -/
theorem decode_encode {ie : IE} {v : Value} {bs : Bytes} (rest : Bytes)
    (hwf : ie.WF) (h : encodeElem ie v = some bs) :
    decodeField ie (bs ++ rest) = .ok (canon ie v, rest) := by
  obtain ⟨p, hf, hd⟩ := isField_encodeElem hwf h
  rw [decodeField_of_isField hf, hd]
  rfl


/-- RFC 7011 section 7 allows the three-octet length form (255, then the length as 16 bits) for ANY length, short values
    included; only this library's own encoder never uses it below 255. The collector's field reader accepts it for every
    length up to 65535 and delivers the same value as for the canonical form, consuming exactly prefix + payload. -/
theorem long_length_form_accepted (ie : IE) (b rest : Bytes) (hl : ie.len = VariableLength) (hb : b.length ≤ 65535) :
    decodeField ie ((255 : UInt8) :: (be 2 b.length ++ b ++ rest)) = (decodeElem ie b >>= fun v => .ok (v, rest)) :=
  decodeField_of_isField (isField_long hl (Nat.lt_succ_of_le hb)) rest

/-- ... and so a short value decodes the same in either form (non-vacuity: "hi" as 02 68 69 and as ff 00 02 68 69) -/
example : decodeField ⟨"sourcePodName", 101, .string, 56506, 65535⟩ [2, 104, 105, 7] =
    decodeField ⟨"sourcePodName", 101, .string, 56506, 65535⟩ [255, 0, 2, 104, 105, 7] := by decide

/-! ## Wire formats stated outright -/

/-- booleans are 1 (true) / 2 (false), RFC 7011 section 6.1.5 -/
theorem bool_wire (ie : IE) (b : Bool) (h : ie.ty = .boolean) (hl : ie.len = 1) :
    encodeElem ie (.bool b) = some [if b then 1 else 2] :=
  (Encodes.boolean h hl).eq

/-- integers (signed ones given as two's-complement patterns), floats (IEEE bit patterns, so NaN
    payloads, signed zeros and denormals survive) and dateTime counters are written big-endian
    at the natural width of the type -/
theorem num_wire (ie : IE) (n w : Nat) (hw : ie.ty.width = some w)
    (hnum : ie.ty ∉ [DataType.boolean, .macAddress, .ipv4Address, .ipv6Address])
    (hl : ie.len = w) (hn : n < 256 ^ w) :
    encodeElem ie (.num n) = some (be w n) :=
  (Encodes.num (.of_width hw hnum) hl hn).eq

/-- a signed integer `i` of width `w` goes out as the big-endian two's complement of `i` -/
theorem int_wire (ie : IE) (i : Int) (w : Nat) (hw : ie.ty.width = some w)
    (hs : ie.ty ∈ [DataType.signed8, .signed16, .signed32, .signed64]) (hl : ie.len = w) :
    encodeElem ie (.num (twos w i)) = some (be w (twos w i)) ∧ ofTwos w (twos w i) % (256 ^ w : Nat) = i % (256 ^ w : Nat) := by
  have hM : (0 : Int) < ((256 ^ w : Nat) : Int) := Int.natCast_pos.2 (Nat.pow_pos (by decide))
  have hcast : ((twos w i : Nat) : Int) = i % ((256 ^ w : Nat) : Int) :=
    Int.toNat_of_nonneg (Int.emod_nonneg i (Int.ne_of_gt hM))
  have hlt : twos w i < 256 ^ w := by omega
  have hnum : ∀ t ∈ [DataType.signed8, .signed16, .signed32, .signed64],
      t ∉ [DataType.boolean, .macAddress, .ipv4Address, .ipv6Address] := by decide
  refine ⟨num_wire ie _ w hw (hnum _ hs) hl hlt, ?_⟩
  unfold ofTwos
  split
  · rw [hcast]
    exact Int.emod_emod_of_dvd i (Int.dvd_refl _)
  · rw [hcast, Int.sub_emod, Int.emod_self, Int.sub_zero, Int.emod_emod_of_dvd _ (Int.dvd_refl _),
      Int.emod_emod_of_dvd _ (Int.dvd_refl _)]

/-- addresses: 6 raw bytes for a MAC, the 4-byte form for IPv4, the 16-byte form for IPv6 -/
theorem addr_wire (ie : IE) (b : Bytes) :
    (ie.ty = .macAddress → ie.len = 6 → b.length = 6 → encodeElem ie (.bytes b) = some b) ∧
    (ie.ty = .ipv4Address → ie.len = 4 → b.length = 4 → encodeElem ie (.bytes b) = some b) ∧
    (ie.ty = .ipv6Address → ie.len = 16 → b.length = 16 → encodeElem ie (.bytes b) = some b) := by
  refine ⟨fun h1 h2 h3 => (Encodes.mac h1 h2 h3).eq, fun h1 h2 h3 => (Encodes.ipv4 h1 h2 ?_).eq,
    fun h1 h2 h3 => (Encodes.ipv6 h1 h2 ?_).eq⟩
  · rw [to4, if_pos h3]
  · rw [to16, if_neg (by omega), if_pos h3]

/-- variable-length prefix: one byte below 255, `0xFF` + 2 bytes from 255 to 65535, error above -/
theorem varlen_prefix (b : Bytes) :
    (b.length < 255 → encodeVar b = some (UInt8.ofNat b.length :: b)) ∧
    (255 ≤ b.length → b.length ≤ 65535 → encodeVar b = some (255 :: (be 2 b.length ++ b))) ∧
    (65535 < b.length → encodeVar b = none) := by
  unfold encodeVar
  refine ⟨?_, ?_, ?_⟩
  · intro h; simp [h]
  · intro h1 h2; simp [h2, show ¬ b.length < 255 by omega]
  · intro h; simp [show ¬ b.length < 255 by omega, show ¬ b.length ≤ 65535 by omega]

/-- reported length, bytes written and the decoder's consumption coincide for every value -/
theorem three_way_agreement {ie : IE} {v : Value} {bs : Bytes} (rest : Bytes)
    (hwf : ie.WF) (h : encodeElem ie v = some bs) :
    bs.length = elemLength ie v ∧
    ∃ v', decodeField ie (bs ++ rest) = .ok (v', rest) :=
  ⟨encode_length h, _, decode_encode rest hwf h⟩

/-- the types the library does not support are errors on both sides, for every value -/
theorem unsupported_types (ie : IE) (v : Value) (bs : Bytes)
    (h : ie.ty ∈ [DataType.dateTimeMicroseconds, .dateTimeNanoseconds, .basicList, .subTemplateList,
                  .subTemplateMultiList, .invalid]) :
    encodeElem ie v = none ∧ decodeElem ie bs = .err ∧ zeroValue ie = .err := by
  obtain ⟨name, id, ty, ent, len⟩ := ie
  simp at h
  rcases h with h | h | h | h | h | h <;> subst h <;> cases v <;>
    simp [encodeElem, decodeElem, zeroValue]

/-- an ill-typed value (wrong address family or length, MAC that is not 6 bytes, fixed-length
    octet array of the wrong length, over-long string) is not encodable -/
theorem ill_typed_rejected (ie : IE) (b : Bytes) :
    (ie.ty = .macAddress → b.length ≠ 6 → encodeElem ie (.bytes b) = none) ∧
    (ie.ty = .ipv4Address → to4 b = none → encodeElem ie (.bytes b) = none) ∧
    (ie.ty = .ipv6Address → to16 b = none → encodeElem ie (.bytes b) = none) ∧
    (ie.ty = .octetArray → ie.len < VariableLength → b.length ≠ ie.len → encodeElem ie (.bytes b) = none) ∧
    (ie.ty = .string → 65535 < b.length → encodeElem ie (.bytes b) = none) := by
  refine ⟨?_, ?_, ?_, ?_, ?_⟩
  · intro h1 h2
    simp [encodeElem, h1, h2]
  · intro h1 h2
    simp [encodeElem, h1, h2]
  · intro h1 h2
    simp [encodeElem, h1, h2]
  · intro h1 h2 h3
    simp only [encodeElem, h1, h2, h3, if_true, if_false]
  · intro h1 h2
    simp only [encodeElem, h1, (varlen_prefix b).2.2 h2]

/-- an element that can be encoded at all occupies at least one byte -/
theorem encodable_nonempty {ie : IE} {v : Value} {bs : Bytes} (hwf : ie.WF) (h : encodeElem ie v = some bs) :
    0 < ie.minLen ∧ ie.minLen ≤ bs.length := by
  obtain ⟨p, hf, _⟩ := isField_encodeElem hwf h
  exact ⟨encodable_minLen_pos hwf h, isField_minLen hf⟩

/-! ## The model's own observation satisfies the predicate evaluated on the implementation -/

/-- what the `ie rt` operation of the Lean driver computes for a well-typed value: the element's
    bytes, its reported length, and exactly one record holding the (canonical) value -/
theorem rt_model {ie : IE} {v : Value} {bs : Bytes} (hwf : ie.WF) (h : encodeElem ie v = some bs) :
    decodeRecords .keep [ie] bs = .ok [[canon ie v]] := by
  have := decodeRecords_encode [ie] (by simpa [minRecordLen] using (encodable_nonempty hwf h).1)
    (by simpa using hwf) [[(ie, v)]] [bs] (by simp) (by simp [encodeRecord, h])
  simpa using this

/-- ... and that observation satisfies `holdsRT` -/
theorem model_holdsRT {ie : IE} {v : Value} {bs : Bytes} (hwf : ie.WF) (h : encodeElem ie v = some bs) :
    holdsRT ie v [] (.ok bs (elemLength ie v) [[canon ie v]]) = true := by
  have hwt : WellTyped ie v := ⟨hwf, by simp [h]⟩
  simp [holdsRT, hwt, encode_length h]

/-! ## Non-vacuity: the hypotheses are satisfiable, with boundary values -/

def ieU16 : IE := ⟨"sourceTransportPort", 7, .unsigned16, 0, 2⟩
def ieStr : IE := ⟨"sourcePodName", 101, .string, 56506, 65535⟩
def ieV4 : IE := ⟨"sourceIPv4Address", 8, .ipv4Address, 0, 4⟩

example : ieU16.WF ∧ encodeElem ieU16 (.num 65535) = some [255, 255] := by decide
example : ieStr.WF ∧ encodeElem ieStr (.bytes [104, 105]) = some [2, 104, 105] := by decide
example (b : Bytes) (h : b.length = 255) : encodeVar b = some (255 :: (be 2 255 ++ b)) := by
  have := (varlen_prefix b).2.1 (by omega) (by omega); rwa [h] at this
example : ieV4.WF ∧ encodeElem ieV4 (.bytes (v4InV6Prefix ++ [10, 0, 0, 1])) = some [10, 0, 0, 1] := by decide
example : twos 2 (-2) = 65534 ∧ ofTwos 2 65534 = -2 := by decide

/-! ## The exact model of `dataRecord.GetBuffer()` (Model/RecordBuf.lean)

`recordBuf` follows the code for ALL element lists (an element that fails is logged and skipped,
a long MAC value spills into its successors, a declared length above the type's width leaves
zeros); it is tied to the code by the differential run of `ie recbuf` (gen/c15.py). The theorems
below connect it to the specification encoder `encodeRecord`. -/

/-- check (2) of `encodeInfoElementValueToBuff` in the model (`DataType.needWidth`) is the
    regenerated table `InfoElementLength`: its entry where that is a width, nothing to check
    where it is `VariableLength` -/
theorem tie_needWidth :
    ∀ t ∈ DataType.all,
      (t.tableLen ≠ VariableLength → t.needWidth = t.tableLen) ∧
      (t.tableLen = VariableLength → t.needWidth = 0) := by
  refine forall_mem_zip_map (f := DataType.code) (P := fun t c =>
    ((Generated.infoElementLength.lookup c).getD 0 ≠ VariableLength →
      t.needWidth = (Generated.infoElementLength.lookup c).getD 0) ∧
    ((Generated.infoElementLength.lookup c).getD 0 = VariableLength → t.needWidth = 0)) ?_
  rw [tie_dataType_codes]
  decide +kernel

/-- "the bytes written are exactly the reported length", for ALL element lists: whatever the
    values and the declared lengths, `GetBuffer` returns `GetRecordLength()` bytes -/
theorem recordBuf_length (es : List Elem) : (recordBuf es).length = recordLength es := by
  rw [recordBuf, recordBufFrom_length, List.length_replicate]

/-- On everything the specification encoder accepts, the exact model of the code writes exactly
    those bytes - so every theorem about `encodeRecord` (round trip `decode_encode`, wire layout
    C02) is a theorem about what `GetBuffer` returns. No well-formedness hypothesis on the
    elements is needed: `encodeElem` itself refuses a fixed-width element that does not declare
    its natural width, and a string is variable-length whatever it declares, in the code as in
    the specification. -/
theorem recordBuf_eq_encodeRecord (es : List Elem) (bs : Bytes) (h : encodeRecord es = some bs) :
    recordBuf es = bs :=
  recordBuf_of_encodeRecord h

/-- element by element: an element the specification encoder accepts is written by the code as
    specified, at whatever position of whatever buffer with room for it (`pre` = what precedes,
    `rest` = the room from the element's index on; what follows the element is kept) -/
theorem encodeAt_eq_encodeElem {ie : IE} {v : Value} {b : Bytes} (h : encodeElem ie v = some b)
    (pre rest : Bytes) (hr : b.length ≤ rest.length) :
    encodeAt ie v (pre ++ rest) pre.length = some (pre ++ b ++ rest.drop b.length) :=
  encodeAt_of_encodeElem h pre rest hr

/-- the exact model of `GetBuffer` satisfies the whole-record predicate the implementation's `recbuf` /
    `recbufx` observations are judged by: length bookkeeping for EVERY element list (ill-typed values and odd
    declared lengths included), the specified bytes wherever the specification encoder accepts the record -/
theorem model_holdsRecBuf (es : List Elem) :
    holdsRecBuf es (.buf (recordLength es) (recordBuf es)) = true := by
  have hl := recordBuf_length es
  cases h : encodeRecord es with
  | none => simp [holdsRecBuf, h, hl]
  | some want =>
    have he := recordBuf_eq_encodeRecord es want h
    have hw : want.length = recordLength es := by rw [← he]; exact hl
    simp [holdsRecBuf, h, he, hw]

def ieMac : IE := ⟨"sourceMacAddress", 56, .macAddress, 0, 6⟩

def rec3 : List Elem :=
  [(ieV4, .bytes [10, 0, 0, 1]), (ieU16, .num 443), (ieStr, .bytes [104, 105])]

/-- `recordBuf_eq_encodeRecord` on a concrete record: address, port, pod name -/
example : encodeRecord rec3 = some [10, 0, 0, 1, 1, 187, 2, 104, 105] ∧
    recordBuf rec3 = [10, 0, 0, 1, 1, 187, 2, 104, 105] := by decide

/-- a spill: an 8-byte value in the 6-byte MAC element. The specification encoder refuses the
    record; the code reports 6 + 2 bytes, `copy` moves all 8 bytes of the value, and the
    unsigned16 behind the MAC element then overwrites the two spilled bytes ... -/
example : encodeRecord [(ieMac, .bytes [1, 2, 3, 4, 5, 6, 7, 8]), (ieU16, .num 0xAABB)] = none ∧
    recordBuf [(ieMac, .bytes [1, 2, 3, 4, 5, 6, 7, 8]), (ieU16, .num 0xAABB)]
      = [1, 2, 3, 4, 5, 6, 0xAA, 0xBB] := by decide

/-- ... unless the element behind it fails too (an IPv4 element without address): then the
    spilled bytes 7, 8 stay in ITS field and go out on the wire -/
example :
    recordBuf [(ieMac, .bytes [1, 2, 3, 4, 5, 6, 7, 8]), (ieV4, .bytes []), (ieU16, .num 0xAABB)]
      = [1, 2, 3, 4, 5, 6, 7, 8, 0, 0, 0xAA, 0xBB] := by decide

/-- a user-made unsigned16 element declaring 4 bytes: the value goes to the FIRST two bytes, the
    other two stay zero (a reader taking the 4 bytes as one big-endian number sees 443 * 65536);
    declaring 1 byte: refused by check (2), the byte stays zero -/
example :
    recordBuf [(⟨"u16in4", 1, .unsigned16, 55555, 4⟩, .num 443), (ieU16, .num 80)] = [1, 187, 0, 0, 0, 80] ∧
    recordBuf [(⟨"u16in1", 2, .unsigned16, 55555, 1⟩, .num 443), (ieU16, .num 80)] = [0, 0, 80] := by decide

end Ipfix.C15
