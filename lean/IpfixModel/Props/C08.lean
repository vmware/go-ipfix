/-
  C08 - Exporter sequence numbers and header bookkeeping across a session.
  The session (`sendAll`, `isOk`, `dataRecords`) and its step lemma `sendAll_cons_ok`, on which both
  inductions below rest, are in Lemmas/Exporter.lean.
-/
import IpfixModel.Props.C02
import IpfixModel.Lemmas.Exporter
namespace Ipfix.C08
open ExpSpec

/-- what one successful SendSet does: one message, its exact byte count is reported, the counter
    advances by the number of data records (mod 2^32) for a data set and not at all for a template
    set, and the message is CreateIPFIXMsg of the set with the NEW counter value and the configured
    observation domain -/
theorem send_ok (st st' : ExpState) (time : Nat) (s : SetB) (n : Nat) (w : Bytes)
    (h : st.sendBuilt time s = (st', .ok n w)) :
    n = w.length ∧ st'.dom = st.dom ∧
    st'.seq = (if s.ty = .data then (st.seq + s.recs.length) % 4294967296 else st.seq) ∧
    createMsg s.updateLen st.dom st'.seq time = some w := by
  obtain ⟨_, hc, hn, rfl⟩ := ExpState.sendBuilt_ok h
  obtain ⟨hs, hd⟩ := st.sent_seq_dom s
  exact ⟨hn, hd, hs.trans (st.advance_seq s), hs ▸ hc⟩

/-- C08: after any session of successful template and data sends, the counter equals the start
    value plus the number of data records carried by all data messages transmitted, modulo 2^32
    (so sessions that cross the wrap are covered); template messages never advance it. By
    `send_ok` every message is stamped with the counter value right after its own records were
    added, i.e. "including that message". -/
theorem seq_law (time : Nat) (st : ExpState) (sets : List SetB) (hseq : st.seq < 4294967296)
    (hall : (sendAll time st sets).2.all isOk = true) :
    (sendAll time st sets).1.seq = (st.seq + dataRecords sets) % 4294967296 ∧ (sendAll time st sets).1.dom = st.dom := by
  induction sets generalizing st with
  | nil => exact ⟨(Nat.mod_eq_of_lt hseq).symm, rfl⟩
  | cons s rest ih =>
    obtain ⟨st1, n, w, _, hlt, hdom, heq, hall', hsum⟩ := sendAll_cons_ok hseq hall
    obtain ⟨ihs, ihd⟩ := ih st1 hlt hall'
    rw [heq]
    exact ⟨ihs.trans (hsum rest), ihd.trans hdom⟩

/-- documented, outside the statement: a FAILED oversize data send has already advanced the counter -/
theorem failed_send_bumps_seq :
    ∃ (st : ExpState) (s : SetB), (st.sendBuilt 0 s).2 = .err ∧ (st.sendBuilt 0 s).1.seq = st.seq + 1 := by
  refine ⟨{ templates := [(256, { fieldCount := 0, minLen := 0 })] },
    { header := [1, 0, 0, 0], ty := .data, recs := [{ isTemplate := false, tid := 256, fieldCount := 0, elems := [], bytes := [] }],
      length := 70000 }, ?_, ?_⟩ <;> decide

/-! ## Non-vacuity: a session crossing the wrap -/
def ieU8 : IE := ⟨"protocolIdentifier", 4, .unsigned8, 0, 1⟩
def dataSet (k : Nat) : SetB :=
  { header := [1, 0, 0, 0], ty := .data,
    recs := List.replicate k { isTemplate := false, tid := 256, fieldCount := 1, elems := [(ieU8, .num 6)], bytes := [6] },
    length := 4 + k }
example : let st : ExpState := { seq := 4294967295, templates := [(256, { fieldCount := 1, minLen := 1 })] }
    (sendAll 0 st [dataSet 3, dataSet 2]).1.seq = 4 ∧ (sendAll 0 st [dataSet 3, dataSet 2]).2.all isOk = true := by decide

/-! ## The header of every transmitted message -/

/-- the 16 header bytes of a message CreateIPFIXMsg builds: version 10, the message's own length,
    export time, sequence number and observation domain exactly as passed -/
theorem createMsg_header (s : SetB) (hi : C16.Inv s) (dom seq time : Nat) (w : Bytes)
    (h : createMsg s dom seq time = some w) : w.take 16 = msgHeader w.length time seq dom := by
  obtain ⟨hlen, _⟩ := C16.createMsg_length s hi dom seq time w h
  obtain ⟨_, rfl⟩ := createMsg_eq_some.1 h
  rw [hlen]
  exact List.take_left' (C16.msgHeader_length _ _ _ _)

/-- every successful SendSet: the header of the one message written carries the reported byte count,
    the export time handed in, the exporter's NEW counter value and the configured domain -/
theorem sent_header (st st' : ExpState) (time : Nat) (s : SetB) (hi : C16.Inv s) (n : Nat) (w : Bytes)
    (h : st.sendBuilt time s = (st', .ok n w)) : w.take 16 = msgHeader n time st'.seq st.dom := by
  obtain ⟨hn, _, _, hc⟩ := send_ok st st' time s n w h
  rw [hn]
  exact createMsg_header s.updateLen hi.updateLen st.dom st'.seq time w hc

/-- C08, per message: the sequence number in EACH transmitted message of a session of successful
    sends equals the start value plus the number of data records carried by all data messages
    transmitted so far INCLUDING that message, modulo 2^32; the same header carries the message's
    own byte count (which is also the count reported to the caller), the export time and the
    configured observation domain -/
theorem seq_in_every_message (time : Nat) (st : ExpState) (sets : List SetB) (hseq : st.seq < 4294967296)
    (hinv : ∀ s ∈ sets, C16.Inv s) (hall : (sendAll time st sets).2.all isOk = true)
    (i : Nat) (hi : i < sets.length) :
    ∃ n w, (sendAll time st sets).2[i]? = some (.ok n w) ∧ n = w.length ∧
      w.take 16 = msgHeader n time ((st.seq + dataRecords (sets.take (i + 1))) % 4294967296) st.dom := by
  induction sets generalizing st i with
  | nil => simp at hi
  | cons s rest ih =>
    obtain ⟨st1, n, w, hr, hlt, hdom, heq, hall', hsum⟩ := sendAll_cons_ok hseq hall
    rw [heq]
    cases i with
    | zero =>
      refine ⟨n, w, rfl, (send_ok st st1 time s n w hr).1, ?_⟩
      rw [sent_header st st1 time s (hinv s (by simp)) n w hr, List.take_succ_cons, List.take_zero, ← hsum []]
      exact congrArg (msgHeader n time · st.dom) (Nat.mod_eq_of_lt hlt).symm
    | succ j =>
      obtain ⟨n', w', hget, hn', hh⟩ := ih st1 hlt (fun x hx => hinv x (by simp [hx])) hall' j (by simpa using hi)
      refine ⟨n', w', by simpa using hget, hn', ?_⟩
      rw [hh, hdom, hsum, List.take_succ_cons]

/-- the per-message law on the wrap-crossing session: the first message (3 records, sent at counter
    2^32 - 1) is stamped 2, the second (2 more records) is stamped 4 -/
example : let st : ExpState := { seq := 4294967295, templates := [(256, { fieldCount := 1, minLen := 1 })] }
    ∀ i, i < 2 → ∃ n w, (sendAll 0 st [dataSet 3, dataSet 2]).2[i]? = some (.ok n w) ∧ n = w.length ∧
      w.take 16 = msgHeader n 0 ((4294967295 + dataRecords ([dataSet 3, dataSet 2].take (i + 1))) % 4294967296) 0 := by
  intro st i hi
  exact seq_in_every_message 0 st [dataSet 3, dataSet 2] (by decide)
    (by intro s hs; simp at hs; rcases hs with rfl | rfl <;> simp [C16.Inv, dataSet, Rec.length])
    (by decide) i hi
example : let st : ExpState := { seq := 4294967295, templates := [(256, { fieldCount := 1, minLen := 1 })] }
    ((sendAll 0 st [dataSet 3, dataSet 2]).2.map fun r => match r with
      | .ok n w => (n, w.take 16) | .err => (0, [])) =
    [(23, msgHeader 23 0 2 0), (22, msgHeader 22 0 4 0)] := by decide

/-- C08 as an independent decoder sees it: the one message a successful SendSet writes parses (with
    the parser that shares nothing with the encoder, `parseMessage`) as version 10 with header length =
    the byte count reported to the caller, the export time handed in, the exporter's NEW counter value,
    the configured observation domain, and one set - the set id the builder was prepared with, a set
    length covering the rest of the message, the record buffers as its body -/
theorem sent_message_parses (st st' : ExpState) (time : Nat) (s : SetB) (hi : C16.Inv s) (n : Nat) (w : Bytes)
    (h : st.sendBuilt time s = (st', .ok n w)) (sid : Nat) (hsid : s.header.take 2 = be 2 sid) (hsl : sid < 65536)
    (hd : st.dom < 4294967296) (hs : st.seq < 4294967296) (ht : time < 4294967296) :
    ∃ m, parseMessage w = some m ∧ m.version = 10 ∧ m.length = n ∧ m.time = time ∧ m.seq = st'.seq ∧
      m.dom = st.dom ∧ m.setId = sid ∧ m.setLen = n - 16 ∧ m.body = (s.recs.map (·.bytes)).flatten := by
  obtain ⟨hn, _, hseq, hc⟩ := send_ok st st' time s n w h
  have hlt : st'.seq < 4294967296 := by
    rw [hseq, ← st.advance_seq s]
    exact st.advance_seq_lt s hs
  have hhdr : s.updateLen.header = be 2 sid ++ be 2 s.updateLen.length := by
    rw [(C16.header_len s hi.2).1, hsid]; rfl
  obtain ⟨m, hp, h1, h2, h3, h4, h5, h6, h7, h8⟩ :=
    C02.wire_header s.updateLen st.dom st'.seq time sid w hc hi.updateLen hhdr hsl hd hlt ht
  exact ⟨m, hp, h1, by rw [h2, hn], h3, h4, h5, h6, by rw [h7, hn], h8⟩

/-- the wrap-crossing session through the independent parser: (length, sequence number, set id, set length) -/
example : let st : ExpState := { seq := 4294967295, templates := [(256, { fieldCount := 1, minLen := 1 })] }
    ((sendAll 0 st [dataSet 3, dataSet 2]).2.map fun r => match r with
      | .ok _ w => (parseMessage w).map (fun m => (m.length, m.seq, m.setId, m.setLen)) | .err => none) =
    [some (23, 2, 256, 7), some (22, 4, 256, 6)] := by decide

end Ipfix.C08
