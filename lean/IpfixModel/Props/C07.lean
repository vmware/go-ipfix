/-
  C07 - Inter-node correlation: withheld until both sides seen, merged field-complete; a flow still
  uncorrelated when its deadline passes is retried a bounded number of times and then dropped.
  (That the expiry callback is only ever invoked on ready flows is `Agg.callback_due_ready` /
  `C06.callback_only_when_due`; the lemmas about `update` are in Lemmas/AggMap.lean; the scan loop seen from
  one flow, and the rounds `Round` / `runRounds` of the retry theorems, in Lemmas/Retry.lean.)
-/
import IpfixModel.Spec.C07
import IpfixModel.Lemmas.Retry
namespace Ipfix.C07
open Agg

/-- decision logic stated outright: correlation is required exactly for inter-node flows that were
    neither dropped / rejected at egress nor rejected at ingress -/
theorem needs_correlation_iff (ft : Nat) (c : List CorrV) :
    corrRequired ft c = true ↔ ft = 2 ∧ corrNum c iEgress ≠ 2 ∧ corrNum c iEgress ≠ 3 ∧ corrNum c iIngress ≠ 3 := by
  have h1 : Generated.cFlowTypeInterNode = 2 := rfl
  have h2 : Generated.cNetworkPolicyRuleActionDrop = 2 := rfl
  have h3 : Generated.cNetworkPolicyRuleActionReject = 3 := rfl
  unfold corrRequired
  rw [h1, h2, h3]
  simp only [Bool.and_eq_true, Bool.not_eq_true', Bool.or_eq_false_iff, beq_iff_eq, beq_eq_false_iff_ne, and_assoc]

/-- intra-node and to-external flows, and inter-node flows denied at egress or rejected at ingress,
    are ready at once -/
theorem ready_at_once (r : InRec) (h : corrRequired r.flowType r.corr = false) : (create r).ready = true := by
  rw [create_ready, h]
  rfl

/-- a flow that needs correlation starts withheld -/
theorem withheld_at_first (r : InRec) (h : corrRequired r.flowType r.corr = true) :
    (create r).ready = false ∧ (create r).corrFilled = false ∧ (create r).corr = r.corr := by
  rw [create_ready, create_corrFilled, if_pos h, h]
  exact ⟨rfl, rfl, rfl⟩

/-- the statistics update never touches readiness or the correlate fields -/
theorem aggregate_keeps (r : InRec) (a : AggRec) (fs fd : Bool) :
    (aggregate r a fs fd).ready = a.ready ∧ (aggregate r a fs fd).corr = a.corr ∧
    (aggregate r a fs fd).corrFilled = a.corrFilled ∧ (aggregate r a fs fd).retries = a.retries :=
  ⟨rfl, rfl, rfl, rfl⟩

/-- one more record: the flow becomes ready exactly when it already was, or the record is the first
    one from the other node -/
theorem update_ready (r : InRec) (a : AggRec) :
    (update r a).ready = (a.ready || (corrRequired r.flowType r.corr && !sameNode r.corr a.corr)) :=
  Agg.update_ready r a

/-- while a flow is withheld its correlate fields are those of its first record -/
theorem update_corr_unready (r : InRec) (a : AggRec) (h : (update r a).ready = false) :
    (update r a).corr = a.corr := Agg.update_corr_unready r a h

/-- a record reported by exactly one of the two nodes -/
def Proper (c : List CorrV) : Prop := fromSrc c ≠ fromDst c

theorem sameNode_proper (a b : List CorrV) (ha : Proper a) (hb : Proper b) :
    sameNode a b = (fromSrc a == fromSrc b) := sameNode_eq ha hb

/-- the flow after its first record `r1` and the further records `rs` -/
def flowAfter (r1 : InRec) (rs : List InRec) : AggRec := rs.foldl (fun a r => update r a) (create r1)

/-- C07: a flow that needs correlation is withheld until records from BOTH the source and the
    destination node have been received, whichever arrives first and however many arrive -/
theorem withheld_until_both (r1 : InRec) (rs : List InRec)
    (h1 : corrRequired r1.flowType r1.corr = true) (hp1 : Proper r1.corr)
    (hall : ∀ r ∈ rs, corrRequired r.flowType r.corr = true ∧ Proper r.corr) :
    (flowAfter r1 rs).ready = true ↔ ∃ r ∈ rs, fromSrc r.corr ≠ fromSrc r1.corr := by
  unfold flowAfter
  rw [foldl_update_ready r1.corr hp1 rs hall (create r1) (fun _ => rfl), (withheld_at_first r1 h1).1, Bool.false_or,
    List.any_eq_true]
  simp only [bne_iff_ne]

/-! ### Records that lack a correlate field (`CorrV.absent`: the two nodes of a flow may export with
    different templates) -/

/-- the merge of one field, case by case: a field the incoming record lacks is skipped (the stored
    record keeps what it has - or keeps lacking it); a field the stored record lacks is taken over
    from the incoming record whatever its value; when both carry it a non-empty incoming value
    overwrites the stored one -/
theorem mergeV_cases (i e : CorrV) :
    (i = .absent → mergeV i e = e) ∧
    (i ≠ .absent → e = .absent → mergeV i e = i) ∧
    (i ≠ .absent → e ≠ .absent → mergeV i e = if i.isEmpty then e else i) :=
  ⟨fun h => h ▸ mergeV_absent_left e, fun h1 h2 => h2 ▸ mergeV_absent_right h1, mergeV_present⟩

/-- the merged value is always that of one of the two records, and the merged record lacks the field
    exactly when both records lack it -/
theorem mergeV_from_either (i e : CorrV) :
    (mergeV i e = i ∨ mergeV i e = e) ∧ (mergeV i e = .absent ↔ i = .absent ∧ e = .absent) := by
  by_cases hi : i = .absent
  · simp [hi, mergeV_absent_left]
  by_cases he : e = .absent
  · simp [hi, he, mergeV_absent_right hi]
  rw [mergeV_present hi he]
  split <;> simp [hi, he]

/-- a field that is non-empty on either side is non-empty in the merge -/
theorem mergeV_nonempty (i e : CorrV) (h : (!i.isEmpty || !e.isEmpty) = true) : (mergeV i e).isEmpty = false := by
  -- an absent field counts as empty, so `h` speaks of the side that is there
  by_cases hi : i = .absent
  · rw [hi, mergeV_absent_left]
    simpa [hi, CorrV.isEmpty] using h
  by_cases he : e = .absent
  · rw [he, mergeV_absent_right hi]
    simpa [he, CorrV.isEmpty] using h
  rw [mergeV_present hi he]
  cases hem : i.isEmpty with
  | false => exact hem
  | true => simpa [hem] using h

/-- C07: the merged record, position by position, at full strength: position `i` of the merge is
    `mergeV` of the two records' values, i.e.
      - the incoming record lacks the field: the stored record's value (or absence) is kept,
      - the stored record lacks the field, the incoming one carries it: the incoming value, EMPTY OR
        NOT, is taken over (the code appends the incoming element to the stored record),
      - both carry it: a non-empty incoming value overwrites the stored one, an empty one does not;
    hence the merge carries a field exactly when one of the two records carries it, its value is
    that of one of the two, and every correlate field that is non-empty on either side is non-empty
    in the merge, taken from one of the two sides -/
theorem merged_complete (inc ex : List CorrV) (hlen : inc.length = ex.length) (i : Nat) (hi : i < inc.length) :
    (correlate inc ex)[i]? = some (mergeV (inc[i]'hi) (ex[i]'(hlen ▸ hi))) ∧
    (inc[i]'hi = .absent → (correlate inc ex)[i]? = some (ex[i]'(hlen ▸ hi))) ∧
    (inc[i]'hi ≠ .absent → ex[i]'(hlen ▸ hi) = .absent → (correlate inc ex)[i]? = some (inc[i]'hi)) ∧
    (inc[i]'hi ≠ .absent → ex[i]'(hlen ▸ hi) ≠ .absent →
      (correlate inc ex)[i]? = some (if (inc[i]'hi).isEmpty then ex[i]'(hlen ▸ hi) else inc[i]'hi)) ∧
    ((correlate inc ex)[i]? = some .absent ↔ inc[i]'hi = .absent ∧ ex[i]'(hlen ▸ hi) = .absent) ∧
    ((!(inc[i]'hi).isEmpty || !(ex[i]'(hlen ▸ hi)).isEmpty) →
      ∃ v, (correlate inc ex)[i]? = some v ∧ !v.isEmpty ∧ (v = inc[i]'hi ∨ v = ex[i]'(hlen ▸ hi))) := by
  rw [correlate_getElem? inc ex i hi (hlen ▸ hi)]
  -- every clause is now one about `mergeV` of the two values
  simp only [Option.some.injEq]
  obtain ⟨c1, c2, c3⟩ := mergeV_cases (inc[i]'hi) (ex[i]'(hlen ▸ hi))
  obtain ⟨f1, f2⟩ := mergeV_from_either (inc[i]'hi) (ex[i]'(hlen ▸ hi))
  exact ⟨trivial, c1, c2, c3, f2, fun hne => ⟨_, rfl, by simp [mergeV_nonempty _ _ hne], f1⟩⟩

/-! ## The two byte forms of an IPv4 value

  The value of an IPv4 element is a net.IP: 4 bytes as the collector decodes it, or the 16-byte
  IPv4-mapped form (net.IPv4zero, net.ParseIP) an in-process caller may build the element with. For
  correlateRecords both are the same address (`val.To4().String()`); the merge stores the incoming
  value object as it is. -/

/-- net.IP.To4 gives the four address bytes of either form -/
theorem to4_of_either_form (a b c d : UInt8) :
    to4 [a, b, c, d] = some [a, b, c, d] ∧ to4 (v4InV6Prefix ++ [a, b, c, d]) = some [a, b, c, d] := by
  constructor <;> simp [to4, v4InV6Prefix]

/-- an IPv4 correlate value is empty exactly when it IS the address 0.0.0.0 -/
theorem ip4_empty_iff (b : Bytes) : (CorrV.ip4 b).isEmpty = true ↔ to4 b = some [0, 0, 0, 0] := by
  simp [CorrV.isEmpty]

/-- the 16-byte form of an address is empty exactly when its 4-byte form is -/
theorem ip4_form_independent (a b c d : UInt8) :
    (CorrV.ip4 (v4InV6Prefix ++ [a, b, c, d])).isEmpty = (CorrV.ip4 [a, b, c, d]).isEmpty := by
  simp [CorrV.isEmpty, (to4_of_either_form a b c d).1, (to4_of_either_form a b c d).2]

/-- the empty IPv4 values are the two forms of 0.0.0.0 and nothing else -/
theorem ip4_empty_forms (b : Bytes) :
    (CorrV.ip4 b).isEmpty = true ↔ b = [0, 0, 0, 0] ∨ b = v4InV6Prefix ++ [0, 0, 0, 0] := by
  rw [ip4_empty_iff]
  constructor
  · intro h
    unfold to4 at h
    split at h
    · exact Or.inl (Option.some.inj h)
    · split at h
      · next h16 =>
        -- `b` is its first twelve bytes, the prefix, followed by the rest, the address
        rw [← List.take_append_drop 12 b, h16.2, Option.some.inj h]
        exact Or.inr rfl
      · cases h
  · rintro (rfl | rfl)
    · exact (to4_of_either_form 0 0 0 0).1
    · exact (to4_of_either_form 0 0 0 0).2

/-- 0.0.0.0 in the 16-byte form (net.IPv4zero) arriving from the other node does not overwrite what is stored -/
theorem mapped_zero_keeps_stored (e : CorrV) (he : e ≠ .absent) :
    mergeV (.ip4 (v4InV6Prefix ++ [0, 0, 0, 0])) e = e := by
  have h : (CorrV.ip4 (v4InV6Prefix ++ [0, 0, 0, 0])).isEmpty = true := by decide
  rw [mergeV_present (i := .ip4 _) nofun he, if_pos h]

/-- an address in the 16-byte form is not empty: it is taken over, in the form it came in -/
theorem mapped_address_overwrites (a b c d : UInt8) (hne : [a, b, c, d] ≠ [0, 0, 0, 0]) (e : CorrV) :
    mergeV (.ip4 (v4InV6Prefix ++ [a, b, c, d])) e = .ip4 (v4InV6Prefix ++ [a, b, c, d]) := by
  have h : (CorrV.ip4 (v4InV6Prefix ++ [a, b, c, d])).isEmpty = false := by
    rw [ip4_form_independent]
    show (to4 [a, b, c, d] == some [0, 0, 0, 0]) = false
    rw [(to4_of_either_form a b c d).1]
    exact beq_false_of_ne fun e => hne (Option.some.inj e)
  by_cases he : e = .absent
  · rw [he, mergeV_absent_right (i := .ip4 _) nofun]
  · rw [mergeV_present (i := .ip4 _) nofun he, h]
    rfl

example : correlate [.str [], .ip4 (v4InV6Prefix ++ [0, 0, 0, 0])] [.str [1], .ip4 [10, 96, 0, 1]] = [.str [1], .ip4 [10, 96, 0, 1]] ∧
    correlate [.str [], .ip4 (v4InV6Prefix ++ [10, 96, 0, 9])] [.str [1], .ip4 [10, 96, 0, 1]] = [.str [1], .ip4 (v4InV6Prefix ++ [10, 96, 0, 9])] ∧
    correlate [.str [], .ip4 [0, 0, 0, 0]] [.str [1], .ip4 (v4InV6Prefix ++ [10, 96, 0, 1])] = [.str [1], .ip4 (v4InV6Prefix ++ [10, 96, 0, 1])] := by decide +kernel

theorem merged_length (inc ex : List CorrV) (hlen : inc.length = ex.length) : (correlate inc ex).length = inc.length := by
  unfold correlate
  simp [List.length_zipWith, hlen]

/-- a record without absent fields merges value by value: every non-empty incoming field overwrites -/
theorem merged_all_present (inc ex : List CorrV) (hi : ∀ v ∈ inc, v ≠ .absent) (he : ∀ v ∈ ex, v ≠ .absent) :
    correlate inc ex = List.zipWith (fun i e => if i.isEmpty then e else i) inc ex := by
  unfold correlate
  induction inc generalizing ex with
  | nil => simp
  | cons a t ih =>
    cases ex with
    | nil => simp
    | cons b u =>
      simp only [List.zipWith_cons_cons]
      rw [ih u (fun v hv => hi v (List.mem_cons_of_mem _ hv)) (fun v hv => he v (List.mem_cons_of_mem _ hv))]
      rw [mergeV_present (hi a List.mem_cons_self) (he b List.mem_cons_self)]

/-- isCorrelationRequired does not consult a rule action the record lacks: the decision is the one for
    the record with that action = 0 (no NetworkPolicy decision) -/
theorem absent_action_not_consulted (ft : Nat) (c : List CorrV) :
    (c[iEgress]? = some .absent → corrRequired ft c = corrRequired ft (c.set iEgress (.num 0))) ∧
    (c[iIngress]? = some .absent → corrRequired ft c = corrRequired ft (c.set iIngress (.num 0))) := by
  constructor
  · intro h
    exact corrRequired_congr ft (corrNum_set_absent h _).symm (corrNum_set_absent h _).symm
  · intro h
    exact corrRequired_congr ft (corrNum_set_absent h _).symm (corrNum_set_absent h _).symm

/-- in particular with the decision logic spelled out: an inter-node record WITHOUT the egress action
    needs correlation exactly when its ingress action is not Reject; one WITHOUT the ingress action
    exactly when its egress action is neither Drop nor Reject; one without both always -/
theorem needs_correlation_absent_action (c : List CorrV) :
    (c[iEgress]? = some .absent → (corrRequired 2 c = true ↔ corrNum c iIngress ≠ 3)) ∧
    (c[iIngress]? = some .absent → (corrRequired 2 c = true ↔ corrNum c iEgress ≠ 2 ∧ corrNum c iEgress ≠ 3)) ∧
    (c[iEgress]? = some .absent → c[iIngress]? = some .absent → corrRequired 2 c = true) := by
  refine ⟨fun h => ?_, fun h => ?_, fun h h' => ?_⟩
  · rw [needs_correlation_iff, corrNum_absent h]
    simp
  · rw [needs_correlation_iff, corrNum_absent h]
    simp
  · rw [needs_correlation_iff, corrNum_absent h, corrNum_absent h']
    simp

/-- C07 for such a record: an inter-node record that lacks the egress action and was rejected at
    ingress needs no correlation and is ready at once (`ready_at_once` applies); so is one that lacks
    the ingress action and was dropped / rejected at egress -/
theorem absent_action_ready_at_once (r : InRec) (hft : r.flowType = 2) :
    (r.corr[iEgress]? = some .absent → corrNum r.corr iIngress = 3 → (create r).ready = true) ∧
    (r.corr[iIngress]? = some .absent → (corrNum r.corr iEgress = 2 ∨ corrNum r.corr iEgress = 3) → (create r).ready = true) := by
  constructor
  · intro h h3
    apply ready_at_once
    rw [hft, ← Bool.not_eq_true, (needs_correlation_absent_action r.corr).1 h]
    exact fun hne => hne h3
  · intro h h23
    apply ready_at_once
    rw [hft, ← Bool.not_eq_true, (needs_correlation_absent_action r.corr).2.1 h]
    omega

/-- ... whereas one that lacks the egress action and was NOT rejected at ingress (allowed, dropped,
    or no decision) starts withheld -/
theorem absent_egress_withheld (r : InRec) (hft : r.flowType = 2) (h : r.corr[iEgress]? = some .absent)
    (h3 : corrNum r.corr iIngress ≠ 3) : (create r).ready = false :=
  (withheld_at_first r (by rw [hft]; exact ((needs_correlation_absent_action r.corr).1 h).mpr h3)).1

/-- isRecordFromSrc / isRecordFromDst on records that lack a pod name: without sourcePodName a record
    is not from the source node, without destinationPodName not from the destination node; an
    absent pod name on the other side counts as an empty one -/
theorem absent_pod_name (c : List CorrV) :
    (c[iSrcPod]? = some .absent → fromSrc c = false ∧ fromDst c = !(corrStr c iDstPod).isEmpty) ∧
    (c[iDstPod]? = some .absent → fromDst c = false ∧ fromSrc c = !(corrStr c iSrcPod).isEmpty) := by
  constructor
  · intro h
    simp [fromSrc, fromDst, corrStr_absent h]
  · intro h
    simp [fromSrc, fromDst, corrStr_absent h]

/-- the record created for a new flow carries exactly the correlate fields of its first record:
    absent positions stay absent -/
theorem create_keeps_corr (r : InRec) : (create r).corr = r.corr := rfl

/-- the correlating update marks the record filled and ready -/
theorem correlating_update_fills (r : InRec) (a : AggRec) (hc : corrRequired r.flowType r.corr = true)
    (hr : a.ready = false) (hs : sameNode r.corr a.corr = false) :
    (update r a).ready = true ∧ (update r a).corrFilled = true ∧ (update r a).corr = correlate r.corr a.corr := by
  rw [update_eq, correlated_merges hc hr hs]
  exact ⟨rfl, rfl, rfl⟩

def cS : List CorrV := [.str [1], .str [], .str [], .str [], .str [], .str [], .ip4 [0,0,0,0], .num 0, .num 0, .num 0, .num 0, .ip6 zero16]
def cD : List CorrV := [.str [], .str [], .str [], .str [2], .str [], .str [], .ip4 [10,0,0,1], .num 443, .num 0, .num 0, .num 0, .ip6 zero16]
/-- a source-node record of an inter-node flow -/
def rS : InRec := { key := 1, flowType := 2, corr := cS, start := 100, end_ := 101, endReason := 2,
                    tcpState := [], stats := [1, 1, 1, 1, 1, 1, 1, 1] }
example : Proper cS ∧ Proper cD ∧ corrRequired 2 cS = true ∧ fromSrc cS ≠ fromSrc cD := by
  refine ⟨?_, ?_, ?_, ?_⟩ <;> (try unfold Proper) <;> decide +kernel
example : correlate cD cS = [.str [1], .str [], .str [], .str [2], .str [], .str [], .ip4 [10,0,0,1], .num 443, .num 0, .num 0, .num 0, .ip6 zero16] := by decide +kernel

/-- a source-node record whose template has no egressNetworkPolicyRuleAction (and no namespace, no
    IPv6 cluster address): rejected at ingress / not -/
def cSnoEgress (ingress : Nat) : List CorrV :=
  [.str [1], .absent, .str [7], .str [], .str [], .str [], .ip4 [0,0,0,0], .num 0, .num ingress, .absent, .num 0, .absent]
/-- a destination-node record whose template has no source node name and no service port, but the egress action -/
def cDnoNode : List CorrV :=
  [.str [], .str [], .absent, .str [2], .str [9], .str [], .ip4 [10,0,0,1], .absent, .num 0, .num 1, .num 5, .ip6 zero16]
example : (cSnoEgress 3)[iEgress]? = some .absent ∧ corrRequired 2 (cSnoEgress 3) = false ∧
    (create { rS with corr := cSnoEgress 3 }).ready = true ∧ (create { rS with corr := cSnoEgress 3 }).corr = cSnoEgress 3 := by decide +kernel
example : corrRequired 2 (cSnoEgress 2) = true ∧ corrRequired 2 (cSnoEgress 1) = true ∧ corrRequired 2 (cSnoEgress 0) = true ∧
    (create { rS with corr := cSnoEgress 0 }).ready = false := by decide +kernel
/-- the two merge: fields only one side carries are taken from it (empty or not), absent on both stays absent -/
example : Proper (cSnoEgress 0) ∧ Proper cDnoNode ∧ sameNode cDnoNode (cSnoEgress 0) = false ∧
    correlate cDnoNode (cSnoEgress 0) =
      [.str [1], .str [], .str [7], .str [2], .str [9], .str [], .ip4 [10,0,0,1], .num 0, .num 0, .num 1, .num 5, .ip6 zero16] ∧
    correlate (cSnoEgress 0) cDnoNode =
      [.str [1], .str [], .str [7], .str [2], .str [9], .str [], .ip4 [10,0,0,1], .num 0, .num 0, .num 1, .num 5, .ip6 zero16] ∧
    correlate (cSnoEgress 0) (cSnoEgress 3) = cSnoEgress 3 := by
  refine ⟨?_, ?_, ?_, ?_, ?_, ?_⟩ <;> (try unfold Proper) <;> decide +kernel
/-- a record without sourcePodName is not from the source node, whatever else it carries -/
example : fromSrc [.absent, .str [], .str [7], .str [], .str [], .str [], .ip4 [0,0,0,0], .num 0, .num 0, .num 0, .num 0, .ip6 zero16] = false := by decide +kernel

/-! ## Retry bound and drop: "a flow still uncorrelated when its deadline passes is retried a bounded
    number of times and then dropped, never exported half-filled"
    (the last clause is `Agg.callback_due_ready` / `C06.callback_only_when_due`: the callback only
    ever sees ready flows) -/

/-- C07: in every reachable state - after ANY sequence of arrivals, clock advances and expiry scans
    (the histories of `C06.no_flow_stranded`), from the initial state with any two timeouts - every
    flow held in the map has been retried at most MaxRetries times -/
theorem retries_bounded (aT iT : Nat) (ops : List Op) (k : Nat) (a : AggRec)
    (hheld : (ops.foldl step { activeT := aT, inactiveT := iT }).find k = some a) :
    a.retries ≤ Generated.cMaxRetries := (bnd_reachable aT iT ops).find hheld

theorem retries_bounded_entries (aT iT : Nat) (ops : List Op) :
    ∀ p ∈ (ops.foldl step { activeT := aT, inactiveT := iT }).flows, p.2.retries ≤ Generated.cMaxRetries :=
  bnd_reachable aT iT ops

/-- the bound is an invariant of each single operation -/
theorem retries_bound_preserved (s : State) (op : Op)
    (h : ∀ p ∈ s.flows, p.2.retries ≤ Generated.cMaxRetries) :
    ∀ p ∈ (step s op).flows, p.2.retries ≤ Generated.cMaxRetries := bnd_step s op h

/-- an arrival never changes the retry counter; a new flow starts with 0 -/
theorem arrival_keeps_retries (r : InRec) (a : AggRec) :
    (update r a).retries = a.retries ∧ (create r).retries = 0 := ⟨update_retries r a, create_retries r⟩

/-- C07, one scan: in a state satisfying the scheduling invariant of C06, a held flow `k` that is NOT
    ready and whose queue item is due at the scan time is - by any scan that is not aborted by a
    failing callback (so in particular by every scan whose callback never fails) - never handed to
    the callback, and is either dropped from the map, exactly when its retry counter had already
    reached MaxRetries, or kept, unchanged but for the retry counter, which is one higher (so it is
    still not ready), and re-armed at (scan time + active timeout, scan time + inactive timeout).
    Other flows, due or not, ready or not, may be present. -/
theorem unready_due_flow_retried_or_dropped (s : State) (fail : Nat → Bool) (ra : Bool) (h : Sched s)
    (k : Nat) (a : AggRec) (hheld : s.find k = some a) (hnr : a.ready = false)
    (it : Item) (hit : it ∈ s.pq.toList) (hk : it.key = k)
    (hdue : it.active ≤ s.now ∨ it.inactive ≤ s.now)
    (hok : (scan s fail ra).2.failed = false) :
    (∀ p ∈ (scan s fail ra).2.callbacks, p.1 ≠ k) ∧
    ((scan s fail ra).1.find k = none ↔ Generated.cMaxRetries ≤ a.retries) ∧
    (a.retries < Generated.cMaxRetries →
      (scan s fail ra).1.find k = some { a with retries := a.retries + 1 } ∧
      { key := k, active := s.now + s.activeT, inactive := s.now + s.inactiveT } ∈
        (scan s fail ra).1.pq.toList) := by
  obtain ⟨h1, h2, h3⟩ := Waits.scan ⟨h, hheld, hnr, hit, hk⟩ fail ra hdue hok
  exact ⟨h1, h2, fun hlt => ⟨(h3 hlt).held, (h3 hlt).queued⟩⟩

/-- the same in a reachable state, where the counter is bounded: the flow is dropped exactly when
    its counter EQUALS MaxRetries, otherwise kept with the counter one higher and still not ready -/
theorem unready_due_flow_retried_or_dropped_reachable (aT iT : Nat) (ops : List Op) (fail : Nat → Bool)
    (ra : Bool) (k : Nat) (a : AggRec) (it : Item) :
    let s := ops.foldl step { activeT := aT, inactiveT := iT }
    s.find k = some a → a.ready = false → it ∈ s.pq.toList → it.key = k →
    (it.active ≤ s.now ∨ it.inactive ≤ s.now) → (scan s fail ra).2.failed = false →
    (∀ p ∈ (scan s fail ra).2.callbacks, p.1 ≠ k) ∧
    ((scan s fail ra).1.find k = none ↔ a.retries = Generated.cMaxRetries) ∧
    (a.retries ≠ Generated.cMaxRetries → ∃ a', (scan s fail ra).1.find k = some a' ∧
      a'.ready = false ∧ a'.retries = a.retries + 1 ∧ a'.retries ≤ Generated.cMaxRetries) := by
  intro s hheld hnr hit hk hdue hok
  have hb := retries_bounded aT iT ops k a hheld
  obtain ⟨h1, h2, h3⟩ := unready_due_flow_retried_or_dropped s fail ra (sched_reachable aT iT ops) k a
    hheld hnr it hit hk hdue hok
  refine ⟨h1, ?_, ?_⟩
  · rw [h2]
    omega
  · intro hne
    have hlt : a.retries < Generated.cMaxRetries := by omega
    exact ⟨_, (h3 hlt).1, hnr, rfl, hlt⟩

theorem foldl_ingest_eq (recs : List InRec) (s : State) :
    (recs.map Op.record).foldl step s = recs.foldl ingest s := List.foldl_map

theorem round_post_eq (r : Round) (s : State) : r.post s = r.ops.foldl step s := by
  unfold Round.ops
  rw [List.foldl_append, foldl_ingest_eq]
  rfl

/-- the rounds are histories in the sense of `C06.no_flow_stranded` / `retries_bounded` -/
theorem runRounds_eq_history (rs : List Round) (s : State) :
    (runRounds s rs).1 = (rs.flatMap Round.ops).foldl step s := by
  induction rs generalizing s with
  | nil => rfl
  | cons r t ih =>
    rw [List.flatMap_cons, List.foldl_append, ← round_post_eq]
    exact ih (r.post s)

/-- arrivals for other flows and a clock advance leave `k`'s record, `k`'s queue item and the
    timeouts alone -/
theorem round_pre_facts (r : Round) (s : State) (h : Sched s) (k : Nat) (it : Item)
    (hno : ∀ x ∈ r.recs, x.key ≠ k) (hit : it ∈ s.pq.toList) (hk : it.key = k) :
    Sched (r.pre s) ∧ (r.pre s).find k = s.find k ∧ it ∈ (r.pre s).pq.toList ∧
    (r.pre s).now = s.now + r.d ∧ (r.pre s).activeT = s.activeT ∧ (r.pre s).inactiveT = s.inactiveT :=
  arrivals_other r.recs r.d s h k it hno hit hk (r.pre s) rfl

/-- the induction behind `uncorrelated_flow_dropped_after_bounded_retries` -/
theorem drop_after_rounds (k : Nat) (rest : List Round) :
    ∀ (r0 : Round) (s : State) (a : AggRec) (it : Item), Sched s → s.find k = some a → a.ready = false →
    it ∈ s.pq.toList → it.key = k → a.retries + rest.length = Generated.cMaxRetries →
    (∀ r ∈ r0 :: rest, ∀ x ∈ r.recs, x.key ≠ k) →
    (it.active ≤ s.now + r0.d ∨ it.inactive ≤ s.now + r0.d) →
    (∀ r ∈ rest, s.activeT ≤ r.d ∨ s.inactiveT ≤ r.d) →
    (∀ o ∈ (runRounds s (r0 :: rest)).2, o.failed = false) →
    (runRounds s (r0 :: rest)).1.find k = none ∧
    (∀ o ∈ (runRounds s (r0 :: rest)).2, ∀ p ∈ o.callbacks, p.1 ≠ k) ∧
    (∀ j, j < (r0 :: rest).length →
      (runRounds s ((r0 :: rest).take j)).1.find k = some { a with retries := a.retries + j }) := by
  induction rest with
  | nil =>
    intro r0 s a it h hheld hnr hit hk hlen hno hdue0 _ hok
    obtain ⟨c1, c2, -⟩ := Waits.round ⟨h, hheld, hnr, hit, hk⟩ r0 (hno r0 List.mem_cons_self) hdue0
      (hok _ List.mem_cons_self)
    refine ⟨c2.mpr (Nat.le_of_eq hlen.symm), List.forall_mem_singleton.mpr c1, fun j hj => ?_⟩
    obtain rfl : j = 0 := Nat.lt_one_iff.mp hj
    exact hheld
  | cons r1 rest ih =>
    intro r0 s a it h hheld hnr hit hk hlen hno hdue0 hdue hok
    -- `runRounds` is taken one round on by rewriting: left to unification, `r0.out s` and `r1.out (r0.post s)`
    -- would be compared, i.e. two scans unfolded
    rw [runRounds] at hok ⊢
    dsimp only at hok ⊢
    rw [List.length_cons] at hlen
    obtain ⟨hno0, hno⟩ := List.forall_mem_cons.mp hno
    obtain ⟨hdue1, hdue⟩ := List.forall_mem_cons.mp hdue
    obtain ⟨hok0, hok⟩ := List.forall_mem_cons.mp hok
    obtain ⟨c1, -, c3⟩ := Waits.round ⟨h, hheld, hnr, hit, hk⟩ r0 hno0 hdue0 hok0
    have w := c3 (by omega)
    have hT := round_post_eq r0 s ▸ timeouts_foldl r0.ops s
    obtain ⟨d1, d2, d3⟩ := ih r1 (r0.post s) _ _ w.sched w.held w.unready w.queued w.key
      (by show a.retries + 1 + rest.length = _; omega) hno
      (hdue1.imp (Nat.add_le_add_left · _) (Nat.add_le_add_left · _)) (hT.1.symm ▸ hT.2.symm ▸ hdue) hok
    refine ⟨d1, List.forall_mem_cons.mpr ⟨c1, d2⟩, fun j hj => ?_⟩
    cases j with
    | zero => exact hheld
    | succ j =>
      rw [List.take_succ_cons, runRounds]
      exact (d3 j (Nat.lt_of_succ_lt_succ hj)).trans (by rw [Nat.add_assoc, Nat.add_comm 1 j])

/-- C07, "retried a bounded number of times and then dropped": let flow `k` be held and not ready,
    with retry counter `a.retries`, in a state satisfying the scheduling invariant of C06 (any other
    flows may be present). Then come `MaxRetries + 1 - a.retries` rounds `r0 :: rest`, in each of
    which records of OTHER flows arrive (no record for `k` arrives any more), the clock advances and
    an expiry scan runs, such that each scan runs when `k`'s item is due - the first advance reaches
    one of the two deadlines of `k`'s item, every later advance is at least one of the two timeouts,
    i.e. reaches the deadline the previous scan re-armed `k` with - and no scan is aborted by a
    failing callback. Then after the last round `k` is no longer held, none of the scans handed `k`
    to the callback, and after `j` of the rounds (`j` less than their number) `k` was still held,
    unchanged but for its retry counter `a.retries + j`. -/
theorem uncorrelated_flow_dropped_after_bounded_retries (s : State) (h : Sched s) (k : Nat) (a : AggRec)
    (hheld : s.find k = some a) (hnr : a.ready = false)
    (it : Item) (hit : it ∈ s.pq.toList) (hk : it.key = k)
    (r0 : Round) (rest : List Round)
    (hlen : (r0 :: rest).length = Generated.cMaxRetries + 1 - a.retries)
    (hno : ∀ r ∈ r0 :: rest, ∀ x ∈ r.recs, x.key ≠ k)
    (hdue0 : it.active ≤ s.now + r0.d ∨ it.inactive ≤ s.now + r0.d)
    (hdue : ∀ r ∈ rest, s.activeT ≤ r.d ∨ s.inactiveT ≤ r.d)
    (hok : ∀ o ∈ (runRounds s (r0 :: rest)).2, o.failed = false) :
    (runRounds s (r0 :: rest)).1.find k = none ∧
    (∀ o ∈ (runRounds s (r0 :: rest)).2, ∀ p ∈ o.callbacks, p.1 ≠ k) ∧
    (∀ j, j < (r0 :: rest).length →
      (runRounds s ((r0 :: rest).take j)).1.find k = some { a with retries := a.retries + j }) :=
  drop_after_rounds k rest r0 s a it h hheld hnr hit hk (by rw [List.length_cons] at hlen; omega) hno hdue0 hdue hok

theorem step_timeouts (s : State) (op : Op) (h : Sched s) :
    (step s op).activeT = s.activeT ∧ (step s op).inactiveT = s.inactiveT := timeouts_step s op

theorem history_timeouts (ops : List Op) (s : State) (h : Sched s) :
    (ops.foldl step s).activeT = s.activeT ∧ (ops.foldl step s).inactiveT = s.inactiveT := timeouts_foldl ops s

/-- the same for a reachable state, as one history: after ANY history `ops` (from the initial state
    with timeouts `aT`, `iT`) that leaves flow `k` held and not ready, the continuation by
    `MaxRetries + 1 - a.retries` rounds as above (no record for `k`, each scan when `k`'s item is due,
    no scan aborted) ends in a state that no longer holds `k`, and no scan of the continuation handed
    `k` to the callback -/
theorem reachable_uncorrelated_flow_dropped (aT iT : Nat) (ops : List Op) (k : Nat) (a : AggRec) (it : Item)
    (r0 : Round) (rest : List Round) :
    let s := ops.foldl step { activeT := aT, inactiveT := iT }
    s.find k = some a → a.ready = false → it ∈ s.pq.toList → it.key = k →
    (r0 :: rest).length = Generated.cMaxRetries + 1 - a.retries →
    (∀ r ∈ r0 :: rest, ∀ x ∈ r.recs, x.key ≠ k) →
    (it.active ≤ s.now + r0.d ∨ it.inactive ≤ s.now + r0.d) →
    (∀ r ∈ rest, aT ≤ r.d ∨ iT ≤ r.d) →
    (∀ o ∈ (runRounds s (r0 :: rest)).2, o.failed = false) →
    ((ops ++ (r0 :: rest).flatMap Round.ops).foldl step { activeT := aT, inactiveT := iT }).find k = none ∧
    (∀ o ∈ (runRounds s (r0 :: rest)).2, ∀ p ∈ o.callbacks, p.1 ≠ k) := by
  intro s hheld hnr hit hk hlen hno hdue0 hdue hok
  obtain ⟨hA, hI⟩ : s.activeT = aT ∧ s.inactiveT = iT := history_timeouts ops _ (sched_init aT iT)
  obtain ⟨h1, h2, _⟩ := uncorrelated_flow_dropped_after_bounded_retries s (sched_reachable aT iT ops) k a
    hheld hnr it hit hk r0 rest hlen hno hdue0 (hA ▸ hI ▸ hdue) hok
  refine ⟨?_, h2⟩
  rw [List.foldl_append, ← runRounds_eq_history]
  exact h1

/-! ### Non-vacuity: a source-node record of an inter-node flow that is never correlated -/
/-- advance to the (re-armed) active deadline, scan with a callback that never fails -/
def retryRound : Round := { recs := [], d := 100, fail := [], resetAfter := false }

/-- the record arrives at t = 0 (active timeout 100, inactive timeout 250); then MaxRetries + 1 times
    the clock advances to the flow's deadline and the scan runs: the flow is held, not ready, with
    retry counter 0, 1, ..., MaxRetries before these scans, gone (and its queue item with it) after
    the last one, and no scan invokes the callback -/
example :
    let s0 := ingest { activeT := 100, inactiveT := 250 } rS
    let rs := List.replicate (Generated.cMaxRetries + 1) retryRound
    (List.range (Generated.cMaxRetries + 1)).map
        (fun j => ((runRounds s0 (rs.take j)).1.find 1).map fun a => (a.ready, a.retries)) =
      (List.range (Generated.cMaxRetries + 1)).map (fun j => some (false, j)) ∧
    (List.range (Generated.cMaxRetries + 1)).map
        (fun j => (runRounds s0 (rs.take j)).1.pq.toList.map fun it => (it.key, it.active, it.inactive)) =
      (List.range (Generated.cMaxRetries + 1)).map (fun j => [(1, 100 * j + 100, 100 * j + 250)]) ∧
    (runRounds s0 rs).1.find 1 = none ∧ (runRounds s0 rs).1.flows.length = 0 ∧ (runRounds s0 rs).1.pq.size = 0 ∧
    (runRounds s0 rs).2.map (fun o => (o.callbacks.length, o.failed)) =
      List.replicate (Generated.cMaxRetries + 1) (0, false) ∧
    (runRounds s0 rs).1.now = 100 * (Generated.cMaxRetries + 1) := by decide +kernel

/-- ... whereas the destination-node record arriving in time makes the flow ready, and the next scan
    exports it (one callback, the flow is kept: active expiry) -/
example :
    let s0 := ingest (ingest { activeT := 100, inactiveT := 250 } rS) { rS with corr := cD }
    ((s0.find 1).map fun a => (a.ready, a.retries)) = some (true, 0) ∧
    ((runRounds s0 [retryRound]).2.map fun o => o.callbacks.map fun p => (p.1, p.2.ready, p.2.corrFilled)) =
      [[(1, true, true)]] := by decide +kernel

/-! ## The bound holds whatever arrives in between

  A record that does not complete the correlation (the same node reporting the flow again) neither resets
  the retry counter nor postpones the active deadline: the next scan treats the flow exactly as it would
  have without that record. This is the model-side reading of the rule `Tracker.onScan` (Spec/C07.lean) judges
  the implementation by (a waiting flow found due by MaxRetries + 1 complete scans is gone). -/

/-- after a record that leaves the flow waiting, the flow is held with the SAME retry counter, is still
    not ready, and its queue item keeps its active deadline -/
theorem rereport_keeps_counter_and_active_deadline (s : State) (h : Sched s) (r : InRec) (a : AggRec) (it : Item)
    (hheld : s.find r.key = some a)
    (hit : it ∈ s.pq.toList) (hk : it.key = r.key) :
    (ingest s r).find r.key = some (update r a) ∧ (update r a).retries = a.retries ∧
    (∃ it' ∈ (ingest s r).pq.toList, it'.key = r.key ∧ it'.active = it.active) ∧ (ingest s r).now = s.now := by
  refine ⟨?_, update_retries r a, ⟨_, ingest_existing_deadlines s r h it hit hk, hk, rfl⟩, ingest_now s r⟩
  rw [ingest_find, if_pos rfl, hheld]
  rfl

/-- ... so a scan that follows such a record (and is not aborted by a failing callback) never exports the
    flow, and drops it exactly when its counter - the one it had BEFORE the record - had reached MaxRetries -/
theorem rereport_does_not_postpone_the_drop (s : State) (h : Sched s) (r : InRec) (a : AggRec) (it : Item)
    (hheld : s.find r.key = some a) (hnr : (update r a).ready = false)
    (hit : it ∈ s.pq.toList) (hk : it.key = r.key) (hdue : it.active ≤ s.now)
    (fail : Nat → Bool) (ra : Bool) (hok : (scan (ingest s r) fail ra).2.failed = false) :
    (∀ p ∈ (scan (ingest s r) fail ra).2.callbacks, p.1 ≠ r.key) ∧
    ((scan (ingest s r) fail ra).1.find r.key = none ↔ Generated.cMaxRetries ≤ a.retries) := by
  obtain ⟨hf, hret, ⟨it', hit', hk', hact⟩, hnow⟩ := rereport_keeps_counter_and_active_deadline s h r a it hheld hit hk
  have hd : Due (ingest s r).now it' := Or.inl (hact ▸ hnow ▸ hdue)
  obtain ⟨h1, h2, -⟩ := Waits.scan ⟨sched_ingest s r h, hf, hnr, hit', hk'⟩ fail ra hd hok
  exact ⟨h1, hret ▸ h2⟩

/-- non-vacuity: the source node reports an inter-node flow and, 100 ms later (the active deadline), reports it again:
    the flow still waits, its item is due, the scan is not aborted -/
example :
    let s0 : State := { ingest { activeT := 100, inactiveT := 250 } rS with now := 100 }
    (∃ a, s0.find rS.key = some a ∧ (update rS a).ready = false ∧ a.retries = 0) ∧
    (∃ it ∈ s0.pq.toList, it.key = rS.key ∧ it.active ≤ s0.now) ∧
    (scan (ingest s0 rS) (fun _ => false) false).2.failed = false ∧
    ((scan (ingest s0 rS) (fun _ => false) false).1.find rS.key).map (·.retries) = some 1 := by
  decide +kernel

end Ipfix.C07
