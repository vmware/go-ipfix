/-
  C16 - Set and record builders: length bookkeeping, equivalence of add paths, reuse.
  The bookkeeping invariant `Inv`, and that each builder operation keeps it, are in Lemmas/Builder.lean.
-/
import IpfixModel.Spec.C16
import IpfixModel.Lemmas.RecordBuf
namespace Ipfix.C16

inductive BOp where
  | prepare (ty : SetType) (id : Nat)
  | add (es : List Elem) (tid : Nat)
  | addV2 (es : List Elem) (tid : Nat)
  | updateLen
  | reset
  deriving Repr

/-- a failing operation returns an error and leaves the set unchanged -/
def step (s : SetB) : BOp → SetB
  | .prepare ty id => (s.prepare ty id).getD s
  | .add es tid => (s.addRecord es tid).getD s
  | .addV2 es tid => (s.addRecordV2 es tid).getD s
  | .updateLen => s.updateLen
  | .reset => s.reset

def run (s : SetB) (ops : List BOp) : SetB := ops.foldl step s

theorem inv_new : Inv SetB.new := ⟨rfl, rfl⟩

theorem inv_step (s : SetB) (op : BOp) (h : Inv s) : Inv (step s op) := by
  cases op with
  | prepare ty id => exact h.prepare ty id
  | add es tid => exact h.add SetB.addRecord_eq_some
  | addV2 es tid => exact h.add SetB.addRecordV2_eq_some
  | updateLen => exact h.updateLen
  | reset => exact Inv.reset s

/-- C16: for ANY operation sequence the set's reported length is 4 plus the sum of its records'
    reported lengths ... -/
theorem length_inv (ops : List BOp) : Inv (run SetB.new ops) := by
  have : ∀ s, Inv s → Inv (run s ops) := by
    induction ops with
    | nil => intro s h; exact h
    | cons op ops ih => intro s h; exact ih _ (inv_step s op h)
  exact this _ inv_new

/-- ... and equals the number of bytes that get serialized for it -/
theorem serialize_length (s : SetB) (h : Inv s) : s.serialize.length = s.length := by
  rw [SetB.serialize, List.length_append, h.2, h.length_eq]

/-- the message CreateIPFIXMsg builds is exactly 16 + length bytes -/
theorem createMsg_length (s : SetB) (h : Inv s) (dom seq time : Nat) (w : Bytes)
    (hw : createMsg s dom seq time = some w) : w.length = 16 + s.length ∧ 16 + s.length ≤ 65535 := by
  obtain ⟨hle, rfl⟩ := createMsg_eq_some.1 hw
  refine ⟨?_, hle⟩
  simp only [List.length_append, msgHeader, be_length, serialize_length s h]

theorem msgHeader_length (len time seq dom : Nat) : (msgHeader len time seq dom).length = 16 := by
  simp [msgHeader]

/-- the model's observation satisfies the executable predicate evaluated on the implementation -/
theorem model_holdsObs (s : SetB) (h : Inv s) : holdsObs (SetB.toObs s) = true := by
  have hser := serialize_length s h
  obtain ⟨hl, hh⟩ := h
  unfold holdsObs SetB.toObs
  simp only [Bool.and_eq_true, beq_iff_eq, List.all_eq_true, List.map_map]
  refine ⟨⟨⟨hl, ?_⟩, hh⟩, ?_⟩
  · intro r hr
    obtain ⟨_, _, rfl⟩ := List.mem_map.1 hr
    rfl
  · cases hc : createMsg s 7 9 0 with
    | none => simpa using createMsg_eq_none.1 hc
    | some w =>
      obtain ⟨hle, rfl⟩ := createMsg_eq_some.1 hc
      have hd : (msgHeader (16 + s.length) 0 9 7 ++ s.serialize).drop 16 = s.serialize :=
        List.drop_left' (msgHeader_length _ _ _ _)
      simp only [Bool.and_eq_true, beq_iff_eq, decide_eq_true_eq, List.length_append, msgHeader_length, hser, hd]
      exact ⟨⟨trivial, rfl⟩, hle⟩

/-! ## The add paths -/

theorem fold_data (es : List Elem) (acc : List Elem) (bs : Bytes) :
    es.foldl addElemData (some (acc, bs)) = (encodeRecord es).map fun b => (acc ++ es, bs ++ b) := by
  induction es generalizing acc bs with
  | nil => simp [encodeRecord]
  | cons e t ih =>
    obtain ⟨ie, v⟩ := e
    simp only [List.foldl_cons, addElemData, encodeRecord]
    cases he : encodeElem ie v with
    | none => exact foldl_none (fun _ => rfl) t
    | some b =>
      simp only [ih]
      cases encodeRecord t <;> simp [List.append_assoc]

theorem fold_template (es : List Elem) (acc : List Elem) (bs : Bytes) (hz : ∀ e ∈ es, elemEmpty e = true) :
    es.foldl addElemTemplate (some (acc, bs)) = some (acc ++ es, bs ++ ((es.map (·.1)).map fieldSpec).flatten) := by
  induction es generalizing acc bs with
  | nil => simp
  | cons e t ih =>
    have he : elemEmpty e = true := hz e (by simp)
    simp only [List.foldl_cons, addElemTemplate, he, if_true]
    rw [ih _ _ (fun x hx => hz x (by simp [hx]))]
    simp [List.append_assoc]

/-- C16: the copying path (AddRecord / AddRecordWithExtraElements, element by element) and the
    slice-adopting path (AddRecordV2) produce the same set - same records, same buffers, same
    length - for data sets ... -/
theorem add_paths_equiv_data (s : SetB) (es : List Elem) (tid : Nat) (hd : s.ty = .data) :
    s.addRecord es tid = s.addRecordV2 es tid := by
  simp only [SetB.addRecord, SetB.addRecordV2, hd, fold_data]
  cases encodeRecord es <;> simp

/-- ... and for template sets (whose elements carry empty values - zero, false, nil/"", or a float's -0.0 - which AddRecord insists on) -/
theorem add_paths_equiv_template (s : SetB) (es : List Elem) (tid : Nat) (ht : s.ty = .template)
    (hz : ∀ e ∈ es, elemEmpty e = true) :
    s.addRecord es tid = s.addRecordV2 es tid := by
  simp only [SetB.addRecord, SetB.addRecordV2, ht, fold_template es [] _ hz, templateRecordBytes]
  simp [List.append_assoc]

/-- the link to the EXACT model of dataRecord.GetBuffer (Model/RecordBuf.lean, tied to the code byte
    for byte by `ie recbuf`): a record that the builder model accepts into a data set carries exactly the
    bytes GetBuffer computes for its elements, and as many as the record reports -/
theorem data_record_bytes_exact (s s' : SetB) (es : List Elem) (tid : Nat) (hd : s.ty = .data)
    (h : s.addRecordV2 es tid = some s') :
    ∃ r, s'.recs = s.recs ++ [r] ∧ r.elems = es ∧ r.bytes = recordBuf es ∧ r.bytes.length = recordLength es := by
  rw [SetB.addRecordV2_data hd] at h
  obtain ⟨bs, he, rfl⟩ := Option.map_eq_some_iff.1 h
  exact ⟨_, rfl, rfl, (recordBuf_of_encodeRecord he).symm, encodeRecord_length es bs he⟩

/-! ## Reuse -/

/-- C16: after a reset a set behaves exactly like a new one: the first operation of a well-formed
    sequence is a prepare, and it yields the same set on both ... -/
theorem reset_like_new (s : SetB) (ty : SetType) (id : Nat) :
    s.reset.prepare ty id = SetB.new.prepare ty id := by
  -- a reset set differs from a new one only in its type, which PrepareSet overwrites
  cases ty <;> rfl

/-- ... hence so does every continuation -/
theorem reset_like_new_run (s : SetB) (ty : SetType) (id : Nat) (ops : List BOp)
    (hp : (SetB.new.prepare ty id).isSome) :
    run s.reset (.prepare ty id :: ops) = run SetB.new (.prepare ty id :: ops) := by
  simp only [run, List.foldl_cons, step, reset_like_new]
  cases hq : SetB.new.prepare ty id with
  | none => simp [hq] at hp
  | some s' => rfl

/-- outside the property's quantifier (no prepare): a brand-new set has the zero-value type
    Template, a reset one has Undefined, so an add succeeds on one and fails on the other -/
theorem new_vs_reset_without_prepare_differ :
    (SetB.new.addRecord [] 256).isSome = true ∧ (SetB.new.reset.addRecord [] 256).isSome = false := by decide

/-- UpdateLenInHeader writes the 16-bit length at offset 2 and keeps the set id -/
theorem header_len (s : SetB) (h : s.header.length = 4) :
    s.updateLen.header = s.header.take 2 ++ be 2 s.length ∧ s.updateLen.header.length = 4 := by
  simp [SetB.updateLen, List.length_take, h]

/-! ## Non-vacuity -/
def ieU8 : IE := ⟨"protocolIdentifier", 4, .unsigned8, 0, 1⟩
example : (run SetB.new [.prepare .data 256, .add [(ieU8, .num 6)] 256, .updateLen]).serialize = [1, 0, 0, 5, 6] := by decide
example : (run SetB.new [.prepare .template 256, .addV2 [(ieU8, .num 0)] 256, .updateLen]).serialize =
    [0, 2, 0, 12, 1, 0, 0, 1, 0, 4, 0, 1] := by decide

end Ipfix.C16
