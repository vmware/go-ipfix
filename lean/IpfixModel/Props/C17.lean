/-
  C17 - Unknown information elements: strict rejects, keep preserves, drop omits exactly.
-/
import IpfixModel.Lemmas.Unknown
import IpfixModel.Lemmas.Specifier
import IpfixModel.Lemmas.Wire
import IpfixModel.Lemmas.TemplateStore
import IpfixModel.Model.Registry
namespace Ipfix.C17
open Outcome C03

/-! ## Tie: "no name" really means "unknown" -/

/-- the collector marks an unknown element by an empty name; no element of the shipped registry
    that can appear in an accepted template has an empty name (the two nameless IANA entries have
    the invalid data type, which makes template decoding fail) -/
theorem tie_no_empty_names : ∀ ie ∈ registry, ie.name = "" → zeroValue ie = .err := by decide +kernel

/-! ## Strict mode -/

/-- strict mode: every element of an accepted template comes from the registry; a template with
    an element that the registry lacks is therefore rejected (and, by C04 `bad_template_erases`,
    erases its predecessor so that following data is rejected too) -/
theorem strict_only_registry {lookup : Nat → Nat → Option IE} {n : Nat} {b : Bytes} {ies : List IE}
    (h : decodeSpecifiers lookup .strict n b = .ok ies) :
    ∀ ie ∈ ies, ∃ ent id, lookup ent id = some ie := by
  intro ie hie
  obtain ⟨_, _, h1⟩ := decodeSpecifiers_mem h ie hie
  obtain ⟨_, _, _, _, ⟨hl, _⟩ | ⟨_, hm, _⟩⟩ := decodeSpecifier_ok h1
  · exact ⟨_, _, hl⟩
  · exact absurd rfl hm

/-! ## Keep mode -/

/-- keep mode: an unknown element (delivered as an octet array) carries exactly the bytes received
    for it - the payload of its complete wire field, fixed or variable length -/
theorem keep_preserves {ie : IE} {b r : Bytes} {v : Value} (hty : ie.ty = .octetArray)
    (h : decodeField ie b = .ok (v, r)) :
    ∃ s p, IsField ie s p ∧ b = s ++ r ∧ v = .bytes p := by
  obtain ⟨s, p, hf, hb, hd⟩ := decodeField_ok h
  refine ⟨s, p, hf, hb, ?_⟩
  simp [decodeElem, hty] at hd
  exact hd.symm

/-- data is decoded the same way in strict and keep mode -/
theorem strict_data_eq_keep (tpl : Template) (b : Bytes) :
    decodeRecord .strict tpl b = decodeRecord .keep tpl b := by
  rw [decodeRecord_mode]
  exact bind_eq_self fun _ _ => rfl

/-! ## Drop mode -/

/-- drop mode omits exactly the unknown fields: it consumes the same bytes as keep mode and
    delivers the keep-mode values at the positions of the known elements, nothing else -/
theorem drop_omits (tpl : Template) (b : Bytes) :
    decodeRecord .drop tpl b =
      (decodeRecord .keep tpl b >>= fun (vs, r) => .ok (filterKnown tpl vs, r)) := decodeRecord_mode .drop tpl b

/-! ## Alignment -/

/-- In keep mode (hence in drop and, for templates it accepts, strict mode) every known field
    decodes to the value it would have had if the unknown fields were not there: cutting the
    unknown fields out of the template and their bytes out of the record yields exactly the
    known values, and the same remaining bytes. -/
theorem known_fields_independent {tpl : Template} {b r : Bytes} {vs : List Value}
    (h : decodeRecord .keep tpl b = .ok (vs, r)) :
    ∃ ss ps, IsRecord tpl ss ps ∧ b = ss.flatten ++ r ∧
      decodeRecord .keep (tpl.filter IE.known) ((stripUnknown tpl ss).flatten ++ r) =
        .ok (filterKnown tpl vs, r) := by
  obtain ⟨ss, ps, hrec, hb, hdp⟩ := decodeRecord_ok h
  exact ⟨ss, ps, hrec, hb, decodeRecord_of_isRecord r (isRecord_strip hrec) (decodePayloads_strip hrec hdp)⟩

/-! ## Template level: what each mode makes of a template that interleaves known and unknown elements -/

/-- strict mode rejects the template AND the data that follows: a template record (as the exporter
    lays it out) with at least one element the registry lacks - at any position, IANA or enterprise -
    is refused, whatever was stored for (domain, id) is erased, and a data set for that id is then
    refused too, whatever its bytes -/
theorem strict_rejects_template_and_data (lookup : Nat → Nat → Option IE) (c : CState) (dom tid : Nat) (ies : List IE)
    (hs : ∀ ie ∈ ies, C02.SpecOK ie) (hunk : ∃ ie ∈ ies, lookup ie.ent ie.id = none)
    (htid : tid < 65536) (hn : ies.length < 65536) :
    decodeTemplateSet lookup .strict c dom (templateRecordBytes tid ies) = (c.erase (dom, tid), .err) ∧
    ∀ mode body, decodeDataSet mode (c.erase (dom, tid)) dom tid body = .err := by
  constructor
  · have := decodeSpecifiers_strict_unknown lookup ies hs hunk []
    rw [List.append_nil] at this
    rw [decodeTemplateSet_record htid hn, this]
  · intro mode body
    exact decodeDataSet_none (by rw [CState.lookup_erase, if_pos rfl]) body

/-- keep and drop mode accept such a template when every element is either registered as described
    or unknown with a non-zero length, and hold it with the known elements as registered and each
    unknown element as a nameless octet array carrying the id, enterprise number and length that
    were on the wire, in the same positions -/
theorem lenient_accepts_template (lookup : Nat → Nat → Option IE) (mode : Mode) (hm : mode ≠ .strict) (c : CState)
    (dom tid : Nat) (ies : List IE) (h : ∀ ie ∈ ies, Lenient lookup ie) (htid : tid < 65536) (hn : ies.length < 65536) :
    decodeTemplateSet lookup mode c dom (templateRecordBytes tid ies) =
      (c.insert (dom, tid) (ies.map (asDelivered lookup)), .ok (.template tid (ies.map (asDelivered lookup)))) := by
  have := decodeSpecifiers_lenient lookup mode hm ies h []
  rw [List.append_nil] at this
  rw [decodeTemplateSet_record htid hn, this]

/-- the stand-in for an unknown element is recognisably unknown, has the wire's id / enterprise /
    length, and occupies exactly the same bytes of a record as the real element would -/
theorem unknown_stand_in (lookup : Nat → Nat → Option IE) (ie : IE) (h : lookup ie.ent ie.id = none) :
    asDelivered lookup ie = unknownIE ie ∧ IE.known (unknownIE ie) = false ∧ (unknownIE ie).ty = .octetArray ∧
    (unknownIE ie).id = ie.id ∧ (unknownIE ie).ent = ie.ent ∧ (unknownIE ie).len = ie.len ∧
    ∀ s p, IsField (unknownIE ie) s p ↔ IsField ie s p := by
  refine ⟨by simp [asDelivered, h], by simp [unknownIE, IE.known], rfl, rfl, rfl, rfl, ?_⟩
  intro s p
  exact Iff.rfl

/-- keep mode, from the exporter's hands: a field the exporter encoded for an element the collector
    does not know is delivered as an octet array holding exactly the payload `p` the exporter wrote
    (the whole encoding of a fixed-length element, the encoding minus its 1- or 3-byte length prefix
    of a variable-length one) - the very bytes from which a collector that knew the element would
    have produced the original value - and the bytes after the field are untouched -/
theorem keep_delivers_payload {ie : IE} {v : Value} {bs : Bytes} (hwf : ie.WF) (h : encodeElem ie v = some bs) (r : Bytes) :
    ∃ p, IsField ie bs p ∧ decodeElem ie p = .ok (C15.canon ie v) ∧
      decodeField (unknownIE ie) (bs ++ r) = .ok (.bytes p, r) := by
  obtain ⟨p, hf, hd⟩ := isField_encodeElem hwf h
  refine ⟨p, hf, hd, ?_⟩
  -- `IsField` looks at the element's length only, and an octet array delivers its payload as it is
  rw [decodeField_of_isField (ie := unknownIE ie) hf]
  rfl

/-! ## Non-vacuity -/

def tplMixed : Template :=
  [⟨"protocolIdentifier", 4, .unsigned8, 0, 1⟩, ⟨"", 20000, .octetArray, 0, 65535⟩,
   ⟨"sourceTransportPort", 7, .unsigned16, 0, 2⟩]

example : decodeRecord .keep tplMixed [6, 2, 0xAA, 0xBB, 0x1F, 0x90] = .ok ([.num 6, .bytes [0xAA, 0xBB], .num 8080], []) ∧
    decodeRecord .drop tplMixed [6, 2, 0xAA, 0xBB, 0x1F, 0x90] = .ok ([.num 6, .num 8080], []) ∧
    decodeRecord .keep (tplMixed.filter IE.known) [6, 0x1F, 0x90] = .ok ([.num 6, .num 8080], []) := by decide

/-- a template as an exporter with a user-registered element 20000 would describe it; the shipped
    registry does not know (0, 20000): the hypotheses of the template-level theorems are met -/
def tplExp : List IE :=
  [⟨"protocolIdentifier", 4, .unsigned8, 0, 1⟩, ⟨"myElement", 20000, .string, 0, 65535⟩,
   ⟨"sourceTransportPort", 7, .unsigned16, 0, 2⟩]
example : (∃ ie ∈ tplExp, lookupIE ie.ent ie.id = none) ∧ (∀ ie ∈ tplExp, C02.SpecOK ie) := by
  refine ⟨⟨tplExp[1], by simp [tplExp], by decide +kernel⟩, ?_⟩
  intro ie h; simp [tplExp] at h; rcases h with rfl | rfl | rfl <;> simp [C02.SpecOK]
example : (decodeTemplateSet lookupIE .strict {} 7 (templateRecordBytes 256 tplExp)).2 = .err ∧
    (decodeTemplateSet lookupIE .keep {} 7 (templateRecordBytes 256 tplExp)).2 = .ok (.template 256 tplMixed) ∧
    tplExp.map (asDelivered lookupIE) = tplMixed := by decide +kernel

end Ipfix.C17
