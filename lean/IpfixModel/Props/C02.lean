/-
  C02 - Exporter output is well-formed RFC 7011 as judged by an independent decoder.
  `parse ∘ encode` at the three layers: message, template record, data records.
-/
import IpfixModel.Lemmas.Wire
import IpfixModel.Props.C16
namespace Ipfix.C02
open Outcome ExpSpec

/-- message layer: what CreateIPFIXMsg emits parses (with the independent parser) as version 10,
    header length = the bytes actually sent, the given export time / sequence number / observation
    domain, exactly one set whose length field covers the rest of the message and whose id is the
    one in the set header; the set body is the concatenation of the record buffers. -/
theorem wire_header (s : SetB) (dom seq time sid : Nat) (w : Bytes)
    (hw : createMsg s dom seq time = some w) (hi : C16.Inv s)
    (hhdr : s.header = be 2 sid ++ be 2 s.length) (hsid : sid < 65536)
    (hd : dom < 4294967296) (hs : seq < 4294967296) (ht : time < 4294967296) :
    ∃ m, parseMessage w = some m ∧ m.version = 10 ∧ m.length = w.length ∧ m.time = time ∧ m.seq = seq ∧
      m.dom = dom ∧ m.setId = sid ∧ m.setLen = w.length - 16 ∧ m.body = (s.recs.map (·.bytes)).flatten := by
  obtain ⟨hwl, _⟩ := C16.createMsg_length s hi dom seq time w hw
  obtain ⟨_, rfl⟩ := createMsg_eq_some.1 hw
  rw [hwl, SetB.serialize, hhdr, List.append_assoc,
    parseMessage_wire (by omega) ht hs hd hsid (by omega)]
  exact ⟨_, rfl, rfl, rfl, rfl, rfl, rfl, rfl, (Nat.add_sub_cancel_left ..).symm, rfl⟩

theorem u8_mod (n : Nat) : (UInt8.ofNat (n % 256)).toNat = n % 256 :=
  u8_toNat_ofNat _ (Nat.mod_lt _ (by decide))

theorem hi_lo (x : Nat) (h : x < 65536) : x / 256 % 256 * 256 + x % 256 = x := by
  rw [Nat.mod_eq_of_lt (Nat.div_lt_of_lt_mul h)]
  exact Nat.div_add_mod' x 256

theorem parse_fieldSpec (ie : IE) (h : SpecOK ie) (n : Nat) (rest : Bytes) (t : List Spec) (r : Bytes)
    (hrest : parseSpecs n rest = some (t, r)) :
    parseSpecs (n + 1) (fieldSpec ie ++ rest) = some (expectedSpec ie :: t, r) := by
  rw [parseSpecs_succ n (readSpec_fieldSpec ie h rest), hrest]
  rfl

/-- template layer: the specifiers of a template record parse back as (id, length, enterprise
    number present exactly for enterprise-specific elements), in order -/
theorem wire_specs (ies : List IE) (h : ∀ ie ∈ ies, SpecOK ie) (rest : Bytes) :
    parseSpecs ies.length ((ies.map fieldSpec).flatten ++ rest) = some (ies.map expectedSpec, rest) := by
  induction ies with
  | nil => simp [parseSpecs]
  | cons ie t ih =>
    simp only [List.map_cons, List.flatten_cons, List.length_cons, List.append_assoc]
    exact parse_fieldSpec ie (h ie (by simp)) _ _ _ _ (ih (fun x hx => h x (by simp [hx])))

/-- a whole template record: (template id, field count) then the specifiers -/
theorem wire_template (tid : Nat) (ies : List IE) (htid : tid < 65536) (hn : ies.length < 65536)
    (h : ∀ ie ∈ ies, SpecOK ie) (fuel : Nat) :
    parseTemplateRecords (fuel + 1) (templateRecordBytes tid ies) = some [(tid, ies.map expectedSpec)] := by
  obtain ⟨t0, t1, ht, htv⟩ := be_two_bytes tid htid
  obtain ⟨c0, c1, hc, hcv⟩ := be_two_bytes ies.length hn
  have hs := wire_specs ies h []
  rw [List.append_nil] at hs
  rw [templateRecordBytes, ht, hc]
  simp only [List.cons_append, List.nil_append, parseTemplateRecords, htv, hcv, hs]
  cases fuel <;> rfl

/-- data layer: the records of a data set, each field big-endian at the template's width or
    length-prefixed, are read back by the collector-side record reader (sound for the independent
    slicing relation by C03 `decode_exact`) as exactly the values handed to the exporter -/
theorem wire_data (ies : List IE) (hmin : 0 < minRecordLen ies) (hwf : ∀ ie ∈ ies, ie.WF)
    (recs : List (List Elem)) (bodies : List Bytes) (hshape : ∀ r ∈ recs, r.map (·.1) = ies)
    (henc : recs.map encodeRecord = bodies.map some) :
    decodeRecords .keep ies bodies.flatten = .ok (recs.map fun r => r.map fun e => C15.canon e.1 e.2) :=
  decodeRecords_encode ies hmin hwf recs bodies hshape henc

/-! ## Non-vacuity -/
example : SpecOK ⟨"sourcePodName", 101, .string, 56506, 65535⟩ := by simp [SpecOK]
example : parseSpecs 2 (fieldSpec ⟨"sourcePodName", 101, .string, 56506, 65535⟩ ++ fieldSpec ⟨"protocolIdentifier", 4, .unsigned8, 0, 1⟩) =
    some ([(101, 65535, some 56506), (4, 1, none)], []) := by decide
/-- outside the guard: an IANA element id >= 32768 would read back as an enterprise-specific one -/
example : (parseSpecs 1 (fieldSpec ⟨"x", 40000, .unsigned8, 0, 1⟩ ++ [0, 0, 0, 0])).map (·.1) = some [(7232, 1, some 0)] := by decide

end Ipfix.C02
