/-
  C05 - Flow aggregation arithmetic: sums, latest values and throughput are conserved.
  Property theorems (statements here; proofs by induction over the flow's history in
  Lemmas/Arith.lean). The model's aggregated record (`modelAfter h`, i.e. `create` on the first
  record then `update` / `resetStats` for every later event) is related to the DECLARATIVE reading
  of the property over the history `h` (Spec/C05.lean: `nodeExpected`, `expected` - sums, last
  values, maxima and the throughput formula as folds over `h`, no incremental state), for every
  history that respects the exporter contract (`contract h`).
-/
import IpfixModel.Lemmas.Arith
import IpfixModel.Lemmas.Sched
import IpfixModel.Lemmas.FlowKey
namespace Ipfix.C05
open Agg

/-- each reporting node's fields: every total counter's latest value, the sum of every delta
    counter over all records that node sent since the counters were last reset (mod 2^64), the
    node's latest end time, and throughput = 8 x growth of the octet total / growth of the end
    time since that node's previous record (first record: since the flow's start, from 0) -/
theorem node_fields_conserved (h : List Ev) (a : AggRec) (hc : contract h = true) (hm : modelAfter h = some a) :
    a.srcStats = (nodeExpected fillsSrc h).stats ∧ a.endSrc = (nodeExpected fillsSrc h).end_ ∧ a.thrSrc = (nodeExpected fillsSrc h).thr ∧
    a.dstStats = (nodeExpected fillsDst h).stats ∧ a.endDst = (nodeExpected fillsDst h).end_ ∧ a.thrDst = (nodeExpected fillsDst h).thr :=
  node_fields h a hc hm

/-- the aggregated record always carries the latest end time -/
theorem end_time_latest (h : List Ev) (a : AggRec) (hc : contract h = true) (hm : modelAfter h = some a) :
    a.end_ = (expected h).end_ := end_latest h a hc hm

/-- the common fields follow the node that reported the latest end time (delta counters and
    throughput are that node's; totals are the largest value among the records that were latest
    when they arrived) -/
theorem common_follows_latest (h : List Ev) (a : AggRec) (hc : contract h = true) (hm : modelAfter h = some a) :
    a.stats = (expected h).common ∧ a.thr = (expected h).thr := common_fields h a hc hm

/-- what "sum of the deltas since the last reset" and "latest total" mean, spelled out for one
    counter of one node (unfolding of `nodeExpected`) -/
theorem node_counter_formula (fills : InRec → Bool) (h : List Ev) (last : InRec)
    (hl : (recordsOf fills h).getLast? = some last) (i : Nat) (hi : i < nStats) :
    (nodeExpected fills h).stats.getD i 0 =
      (if isDelta i then ((recordsOf fills (sinceReset h)).map (·.stats.getD i 0)).sum % u64 else last.stats.getD i 0) := by
  rw [nodeExpected_eq, nodeOf_stats _ _ (recordsOf_sinceReset_suffix fills h), getD_range_map, if_pos hi, hl]

/-- a reset clears delta counters and throughput fields only -/
theorem reset_clears_deltas_and_throughput_only (a : AggRec) :
    (∀ i, isDelta i = false → (resetStats a).stats.getD i 0 = a.stats.getD i 0 ∧ (resetStats a).srcStats.getD i 0 = a.srcStats.getD i 0 ∧ (resetStats a).dstStats.getD i 0 = a.dstStats.getD i 0) ∧
    (∀ i, isDelta i = true → (resetStats a).stats.getD i 0 = 0 ∧ (resetStats a).srcStats.getD i 0 = 0 ∧ (resetStats a).dstStats.getD i 0 = 0) ∧
    (resetStats a).thr = [0, 0] ∧ (resetStats a).thrSrc = [0, 0] ∧ (resetStats a).thrDst = [0, 0] ∧
    (resetStats a).end_ = a.end_ ∧ (resetStats a).endSrc = a.endSrc ∧ (resetStats a).endDst = a.endDst ∧
    (resetStats a).corr = a.corr ∧ (resetStats a).ready = a.ready ∧ (resetStats a).start = a.start ∧
    (resetStats a).endReason = a.endReason ∧ (resetStats a).tcpState = a.tcpState ∧ (resetStats a).flowType = a.flowType :=
  reset_clears_only a

/-- records with different 5-tuples never affect each other -/
theorem other_keys_unaffected (s : State) (r : InRec) (k : Nat) (hk : r.key ≠ k) : (ingest s r).find k = s.find k :=
  keys_independent s r k hk

/-- exactly one flow record exists per distinct 5-tuple, after any sequence of operations -/
theorem one_flow_per_key (a i : Nat) (ops : List Op) :
    ((ops.foldl step { activeT := a, inactiveT := i }).flows.map (·.1)).Nodup := (sched_reachable a i ops).nodup

/-- the representability guard made visible: the throughput is computed in uint64, so when
    8 x growth does not fit 64 bits it wraps (outside the contract's guard) -/
theorem throughput_wraps : thrOf (2 ^ 62) 0 2 1 = 0 ∧ thrOf (2 ^ 61 - 1) 0 2 1 = 8 * (2 ^ 61 - 1) := by decide

/-! ## The flow key: "records with different 5-tuples", "one flow record per distinct 5-tuple"

  `one_flow_per_key` and `other_keys_unaffected` speak of keys; these theorems say what a key IS - the walk
  of getFlowKeyFromRecord (`FlowKey.keyLoop`, Model/FlowKey.lean) over a record. -/
section FlowKeyProps
open FlowKey

/-- the walk over the seven element names computes the closed form -/
theorem key_walk_closed_form (r : KeyRec) : keyLoop r = flowKey r := keyLoop_eq_flowKey r

/-- a record has a key exactly when it carries both ports, the protocol and, for each side, an IPv4 or an
    IPv6 address; otherwise the record is refused -/
theorem key_defined_iff (r : KeyRec) :
    (keyLoop r).isSome = (r.sport.isSome && r.dport.isSome && r.proto.isSome &&
      (r.src4.isSome || r.src6.isSome) && (r.dst4.isSome || r.dst6.isSome)) := by
  rw [keyLoop_eq_flowKey]
  exact flowKey_isSome r

/-- two records get the same key exactly when they denote the same 5-tuple: same ports, same protocol, the
    same source and the same destination address - whatever byte form the addresses are handed over in.
    So distinct 5-tuples never share a flow record and one 5-tuple never has two. -/
theorem key_distinguishes_exactly_the_five_tuple (r1 r2 : KeyRec) (k1 k2 : Key) (f1 f2 : Bool)
    (h1 : keyLoop r1 = some (k1, f1)) (h2 : keyLoop r2 = some (k2, f2)) :
    k1 = k2 ↔ sameTuple r1 r2 = true := by
  rw [keyLoop_eq_flowKey] at h1 h2
  exact flowKey_eq_iff r1 r2 k1 k2 f1 f2 h1 h2

/-- "the same address": two address values print alike exactly when their 16-byte forms agree (a value that
    has none - no bytes, a length that is neither 4 nor 16 - only equals itself) -/
theorem same_text_iff_same_address (a b : Bytes) : ipText a = ipText b ↔ canon a = canon b := ipText_eq_iff a b

/-- an IPv4 address in its 4-byte form and in its 16-byte form is one address -/
theorem key_address_form_independent (a b c d : UInt8) :
    ipText [a, b, c, d] = ipText (v4InV6Prefix ++ [a, b, c, d]) := by
  rw [ipText_eq_iff, canon_len4 rfl, canon_of_ne4 (by simp [prefix_len])]

/-- an IPv6 address of a side whose IPv4 address the record carries is never consulted -/
theorem key_ignores_ipv6_when_ipv4_present (r : KeyRec) (s4 d4 : Bytes) (x y : Option Bytes) :
    keyLoop { r with src4 := some s4, dst4 := some d4, src6 := x, dst6 := y } =
    keyLoop { r with src4 := some s4, dst4 := some d4 } := by
  rw [keyLoop_eq_flowKey, keyLoop_eq_flowKey]
  rfl

/-- the second result: both IPv4 addresses were there -/
theorem key_ipv4_flag (r : KeyRec) (k : Key) (f : Bool) (h : keyLoop r = some (k, f)) :
    f = (r.src4.isSome && r.dst4.isSome) := by
  rw [keyLoop_eq_flowKey] at h
  obtain ⟨_, _, _, _, _, _, _, _, _, _, _, hf⟩ := flowKey_some h
  exact hf

/-- records that differ in ONE component of the 5-tuple have different keys (each component is in the key) -/
theorem key_has_every_component (r : KeyRec) (k k' : Key) (f f' : Bool) (h : keyLoop r = some (k, f)) :
    (∀ p, r.proto ≠ some p → keyLoop { r with proto := some p } = some (k', f') → k ≠ k') ∧
    (∀ p, r.sport ≠ some p → keyLoop { r with sport := some p } = some (k', f') → k ≠ k') ∧
    (∀ p, r.dport ≠ some p → keyLoop { r with dport := some p } = some (k', f') → k ≠ k') := by
  have hs := fun r' (h' : keyLoop r' = some (k', f')) (heq : k = k') =>
    sameTuple_nums ((key_distinguishes_exactly_the_five_tuple _ _ _ _ _ _ h h').mp heq)
  exact ⟨fun p hp h' heq => hp (hs _ h' heq).2.2, fun p hp h' heq => hp (hs _ h' heq).1,
    fun p hp h' heq => hp (hs _ h' heq).2.1⟩

/-- the two halves together. The flow table is a Go map keyed by the FlowKey struct, i.e. by its five components:
    any injective numbering `enc` of keys stands for it. A record whose five-tuple differs from that of a held flow
    leaves that flow exactly as it was; a record of the same five-tuple - in whatever byte form its addresses come - is
    aggregated into that very flow's entry. -/
theorem different_five_tuples_never_interact (enc : Key → Nat) (hinj : ∀ a b, enc a = enc b → a = b)
    (s : State) (r : InRec) (kr kr' : KeyRec) (k k' : Key) (f f' : Bool)
    (h1 : keyLoop kr = some (k, f)) (h2 : keyLoop kr' = some (k', f')) (hr : r.key = enc k) :
    (sameTuple kr kr' = false → (ingest s r).find (enc k') = s.find (enc k')) ∧
    (sameTuple kr kr' = true → enc k' = r.key) := by
  have hiff := key_distinguishes_exactly_the_five_tuple kr kr' k k' f f' h1 h2
  constructor
  · intro hne
    apply other_keys_unaffected
    intro he
    have : k = k' := hinj _ _ (by rw [← hr]; exact he)
    rw [hiff.mp this] at hne
    cases hne
  · intro hsame
    rw [hr, hiff.mpr hsame]

/-- non-vacuity: two TCP flows between the same hosts and ports, one seen as UDP; an IPv4 flow reported with
    16-byte addresses; a record without a destination address -/
example :
    keyLoop ⟨some 1234, some 80, some 6, some [10,0,0,1], some [10,0,0,2], none, none⟩ =
      some ({ src := .v4 [10,0,0,1], dst := .v4 [10,0,0,2], proto := 6, sport := 1234, dport := 80 }, true) ∧
    keyLoop ⟨some 1234, some 80, some 17, some [10,0,0,1], some [10,0,0,2], none, none⟩ ≠
      keyLoop ⟨some 1234, some 80, some 6, some [10,0,0,1], some [10,0,0,2], none, none⟩ ∧
    keyLoop ⟨some 1234, some 80, some 6, some (v4InV6Prefix ++ [10,0,0,1]), some (v4InV6Prefix ++ [10,0,0,2]), none, none⟩ =
      keyLoop ⟨some 1234, some 80, some 6, some [10,0,0,1], some [10,0,0,2], none, none⟩ ∧
    keyLoop ⟨some 1234, some 80, some 6, some [10,0,0,1], none, none, none⟩ = none ∧
    keyLoop ⟨some 1234, some 80, some 6, none, none, some (List.replicate 15 0 ++ [1]), some (List.replicate 15 0 ++ [2])⟩ =
      some ({ src := .v6 (List.replicate 15 0 ++ [1]), dst := .v6 (List.replicate 15 0 ++ [2]), proto := 6, sport := 1234, dport := 80 }, false) := by
  decide +kernel

end FlowKeyProps

/-! ## httpVals

  In the sessions that configure httpVals among the non-stats elements every record carries a value
  of it - any string is legal. The arithmetic never looks at it. -/

/-- the statistics update does not read the record's httpVals -/
theorem aggNums_ignores_httpVals (r : InRec) (n : Nums) (fs fd : Bool) (v : Option Bytes) :
    aggNums { r with httpVals := v } n fs fd = aggNums r n fs fd := rfl

/-- whatever the incoming and the stored record hold as httpVals - nothing, a JSON object, text that is no
    JSON - every field the property talks about (end times, counters, throughput; `AggRec.nums`) comes out
    the same -/
theorem httpVals_never_touches_arithmetic (r : InRec) (a : AggRec) (v w : Option Bytes) :
    (update { r with httpVals := v } { a with httpVals := w }).nums = (update r a).nums := by
  rw [update_nums, update_nums]
  exact aggNums_ignores_httpVals r a.nums _ _ v

/-- a value that does not parse, incoming or stored, is not an error of the aggregation: the incoming value
    replaces the stored one -/
theorem unparsable_httpVals_replaces (i e : Bytes) (h : parseHttp i = none ∨ parseHttp e = none) : fillHttp i e = i := by
  unfold fillHttp
  rcases h with h | h
  · rw [h]
  · rw [h]
    cases parseHttp i <;> rfl

/-- fillHttpVals on concrete values (bytes of the JSON text): incoming {"1":"a","10":"b","2":"c"}, stored {"1":"zz","3":"q"} give
    {"1":"zz","10":"b","2":"c","3":"q"} (the stored text of id 1 wins; "10" sorts before "2"); two empty strings give {};
    a cut-off incoming value {"1":"a replaces the stored one as it is -/
example : fillHttp [123, 34, 49, 34, 58, 34, 97, 34, 44, 34, 49, 48, 34, 58, 34, 98, 34, 44, 34, 50, 34, 58, 34, 99, 34, 125] [123, 34, 49, 34, 58, 34, 122, 122, 34, 44, 34, 51, 34, 58, 34, 113, 34, 125] = [123, 34, 49, 34, 58, 34, 122, 122, 34, 44, 34, 49, 48, 34, 58, 34, 98, 34, 44, 34, 50, 34, 58, 34, 99, 34, 44, 34, 51, 34, 58, 34, 113, 34, 125] ∧ fillHttp [] [] = [123, 125] ∧
    fillHttp [123, 34, 49, 34, 58, 34, 97] [123, 34, 49, 34, 58, 34, 122, 122, 34, 125] = [123, 34, 49, 34, 58, 34, 97] ∧ fillHttp [123, 34, 53, 34, 58, 34, 120, 34, 125] [103, 97, 114, 98, 97, 103, 101] = [123, 34, 53, 34, 58, 34, 120, 34, 125] := by decide +kernel

/-- a record that is not later than its node's previous one is skipped after the end times were written: the
    non-stats elements (httpVals among them) and the counters stay -/
theorem skipped_record_leaves_non_stats (r : InRec) (a : AggRec) (fs fd : Bool) (h : r.end_ ≤ prevEnd r a fs fd) :
    (aggregate r a fs fd).httpVals = a.httpVals ∧ (aggregate r a fs fd).stats = a.stats ∧
    (aggregate r a fs fd).tcpState = a.tcpState ∧ (aggregate r a fs fd).endReason = a.endReason := by
  have hn := aggNums_early r a fs fd h
  exact ⟨aggregate_httpVals_early r a fs fd h, congrArg Nums.stats hn, congrArg Nums.tcpState hn,
    congrArg Nums.endReason hn⟩

/-! ## Non-vacuity: a contract-respecting correlated history with a reset -/
def cS : List CorrV := [.str [1], .str [], .str [], .str [], .str [], .str [], .ip4 [0,0,0,0], .num 0, .num 0, .num 0, .num 0, .ip6 zero16]
def cD : List CorrV := [.str [], .str [], .str [], .str [2], .str [], .str [], .ip4 [0,0,0,0], .num 0, .num 0, .num 0, .num 0, .ip6 zero16]
def rec (c : List CorrV) (e : Nat) (st : List Nat) : InRec :=
  { key := 1, flowType := 2, corr := c, start := 100, end_ := e, endReason := 2, tcpState := [], stats := st }
def hist : List Ev :=
  [.record (rec cS 110 [10, 5, 1000, 500, 0, 0, 0, 0]), .record (rec cD 105 [8, 8, 800, 800, 0, 0, 0, 0]),
   .record (rec cS 120 [30, 20, 3000, 2000, 0, 0, 0, 0]), .reset, .record (rec cD 130 [9, 1, 900, 100, 0, 0, 0, 0])]
example : contract hist = true ∧ (modelAfter hist).isSome = true := by decide +kernel
example : (nodeExpected fillsSrc hist).stats = [30, 0, 3000, 0, 0, 0, 0, 0] ∧ (nodeExpected fillsDst hist).stats = [9, 1, 900, 100, 0, 0, 0, 0] ∧
    (nodeExpected fillsDst hist).thr = [(900 - 800) * 8 / (130 - 105), 0] ∧ (expected hist).end_ = 130 := by decide +kernel

end Ipfix.C05
