/-
  C04 - data is decoded with the right template: scoping, replacement, invalidation.
  The theorems of the first part are stated on the specification's run (`runSpec`, `decodePacketSpec` of Spec/C04.lean),
  which differs from the code on one shape of packet (finding D13). The code (`runCode`, `decodePacket`) comes in
  through the second part: `templates_refine_partial` says `runCode = runSpec` on histories without such a packet, so
  rewrite with it first to speak about the collector.
-/
import IpfixModel.Lemmas.Collector
import IpfixModel.Lemmas.TemplateStore
namespace Ipfix.C04
open Outcome

/-- the template store after one packet is the store with the packet's event applied -/
theorem templateSetSpec_state (lookup : Nat → Nat → Option IE) (mode : Mode) (s : CState) (dom : Nat) (body : Bytes) :
    (decodeTemplateSetSpec lookup mode s dom body).1 = (templateEvent lookup mode dom body).apply s := by
  unfold templateEvent decodeTemplateSetSpec
  split
  · split
    · rename_i c0 c1 r
      simp only
      cases decodeSpecifiers lookup mode (c0.toNat * 256 + c1.toNat) r <;> rfl
    · rfl
  · rfl

theorem spec_state_is_event (lookup : Nat → Nat → Option IE) (mode : Mode) (s : CState) (pkt : Bytes) :
    (decodePacketSpec lookup mode s pkt).1 = (classify lookup mode pkt).apply s := by
  unfold decodePacketSpec classify
  split
  · rfl
  · split
    · rfl
    · split
      · exact templateSetSpec_state ..
      · rfl

/-- C04, refinement: after ANY history of packets the template in force for (domain, id) is the
    most recent valid template received for that key, and none if the most recent template set for
    that key failed to decode after its id was read, or if there was none. -/
theorem templates_refine (lookup : Nat → Nat → Option IE) (mode : Mode) (pkts : List Bytes) (k : TKey) :
    (runSpec lookup mode {} pkts).lookup k = lastValid ((pkts.map (classify lookup mode)).reverse) k := by
  have h : runSpec lookup mode {} pkts = (pkts.map (classify lookup mode)).foldl TEvent.apply {} := by
    simp only [runSpec, List.foldl_map, spec_state_is_event]
  rw [h, ← lookup_foldl_apply, List.reverse_reverse]

/-- C04, scoping: a packet about another observation domain or another template id never changes
    the template in force for `k` -/
theorem frame (lookup : Nat → Nat → Option IE) (mode : Mode) (s : CState) (pkt : Bytes) (k : TKey)
    (h : ∀ k' t, classify lookup mode pkt = .valid k' t → k' ≠ k)
    (h' : ∀ k', classify lookup mode pkt = .bad k' → k' ≠ k) :
    (decodePacketSpec lookup mode s pkt).1.lookup k = s.lookup k := by
  rw [spec_state_is_event]
  cases hc : classify lookup mode pkt with
  | valid k' t => rw [TEvent.apply, CState.lookup_insert, if_neg (h k' t hc)]
  | bad k' => rw [TEvent.apply, CState.lookup_erase, if_neg (h' k' hc)]
  | other => rfl

/-- C04: a data set is decoded with the template in force for its (domain, id) - which by
    `templates_refine` is the most recent valid one ... -/
theorem data_uses_last_valid (lookup : Nat → Nat → Option IE) (mode : Mode) (pkts : List Bytes)
    (dom tid : Nat) (body : Bytes) (tpl : Template)
    (h : lastValid ((pkts.map (classify lookup mode)).reverse) (dom, tid) = some tpl) :
    decodeDataSet mode (runSpec lookup mode {} pkts) dom tid body =
      (decodeRecords mode tpl body >>= fun recs => .ok (.data tid recs)) :=
  decodeDataSet_some ((templates_refine lookup mode pkts (dom, tid)).trans h) body

/-- ... and rejected when there is none -/
theorem data_rejected_without_template (lookup : Nat → Nat → Option IE) (mode : Mode) (pkts : List Bytes)
    (dom tid : Nat) (body : Bytes)
    (h : lastValid ((pkts.map (classify lookup mode)).reverse) (dom, tid) = none) :
    decodeDataSet mode (runSpec lookup mode {} pkts) dom tid body = .err :=
  decodeDataSet_none ((templates_refine lookup mode pkts (dom, tid)).trans h) body

/-- C04: a template set that fails after its id was read leaves no template for that id -/
theorem bad_template_erases (lookup : Nat → Nat → Option IE) (mode : Mode) (s : CState) (pkt : Bytes) (k : TKey)
    (h : classify lookup mode pkt = .bad k) : (decodePacketSpec lookup mode s pkt).1.lookup k = none := by
  rw [spec_state_is_event, h, TEvent.apply, CState.lookup_erase, if_pos rfl]

/-! ## The code against the specification -/

/-- the code's bookkeeping IS the specification's, except on a template set cut right after its id -/
theorem templateSet_eq_spec_off_cut (lookup : Nat → Nat → Option IE) (mode : Mode) (s : CState) (dom : Nat)
    (body : Bytes) (h : ¬ (body.length = 2 ∨ body.length = 3)) :
    decodeTemplateSet lookup mode s dom body = decodeTemplateSetSpec lookup mode s dom body := by
  unfold decodeTemplateSet decodeTemplateSetSpec
  match body, h with
  | [], _ => rfl
  | [_], _ => rfl
  | [_, _], h => simp at h
  | [_, _, _], h => simp at h
  | _ :: _ :: _ :: _ :: _, _ => rfl

theorem code_eq_spec_off_cut (lookup : Nat → Nat → Option IE) (mode : Mode) (s : CState) (pkt : Bytes)
    (h : truncatedAfterId pkt = false) : decodePacket lookup mode s pkt = decodePacketSpec lookup mode s pkt := by
  unfold decodePacketSpec
  cases hp : parseHeader pkt with
  | none => exact decodePacket_of_no_header hp
  | some hb =>
    obtain ⟨hd, body⟩ := hb
    by_cases hv : hd.version = 10
    · rw [decodePacket_of_header hp hv]
      simp only [hv, ne_eq, not_true_eq_false, if_false]
      split
      · rename_i hs
        have hcut : ¬ (body.length = 2 ∨ body.length = 3) := by
          simpa [truncatedAfterId, hp, hv, hs] using h
        rw [templateSet_eq_spec_off_cut lookup mode s hd.dom body hcut]
      · rfl
    · rw [decodePacket_of_version hp hv]
      exact (if_pos hv).symm

/-- ... hence on histories without such a packet the code satisfies the refinement
    (`templates_refine`, `data_uses_last_valid`, `frame`, `bad_template_erases`) -/
theorem templates_refine_partial (lookup : Nat → Nat → Option IE) (mode : Mode) (pkts : List Bytes)
    (h : ∀ p ∈ pkts, truncatedAfterId p = false) (s : CState) :
    runCode lookup mode s pkts = runSpec lookup mode s pkts := by
  induction pkts generalizing s with
  | nil => rfl
  | cons p ps ih =>
    unfold runCode runSpec at *
    simp only [List.foldl_cons]
    rw [code_eq_spec_off_cut lookup mode s p (h p (by simp))]
    exact ih (fun q hq => h q (by simp [hq])) _

/-! ## Finding D13: the full-strength statement is false for the code -/

def lk (ent id : Nat) : Option IE :=
  if ent = 0 ∧ id = 7 then some ⟨"sourceTransportPort", 7, .unsigned16, 0, 2⟩ else none

def tplPkt : Bytes := [0,10,0,28, 0,0,0,0, 0,0,0,0, 0,0,0,1, 0,2,0,12, 1,0, 0,1, 0,7,0,2]
def cutPkt : Bytes := [0,10,0,22, 0,0,0,0, 0,0,0,0, 0,0,0,1, 0,2,0,6, 1,0]

/-- after a valid template 256 and a template set cut right after the id 256, the specification
    has no template for (1, 256) but the code still has the old one -/
theorem d13_witness :
    (runSpec lk .strict {} [tplPkt, cutPkt]).lookup (1, 256) = none ∧
    (runCode lk .strict {} [tplPkt, cutPkt]).lookup (1, 256) = some [⟨"sourceTransportPort", 7, .unsigned16, 0, 2⟩] ∧
    truncatedAfterId cutPkt = true := by decide

/-! ## Non-vacuity -/
example : truncatedAfterId tplPkt = false := by decide
example : (runSpec lk .strict {} [tplPkt]).lookup (1, 256) = some [⟨"sourceTransportPort", 7, .unsigned16, 0, 2⟩] := by decide

end Ipfix.C04
