/-
  C06 - Flow expiry: callbacks fire exactly at deadlines and no flow is ever stranded.
  Property theorems. Those about the model are instances, or follow in a line or two, of lemmas in Lemmas/Sched.lean,
  Lemmas/SchedOrder.lean and Lemmas/Heap.lean, where the loop invariant of the expiry scan and the container/heap
  lemmas are; those about the judgement of refused records (`checkIdle`, Spec/C06.lean) are proved here.
  The model runs the REAL container/heap algorithm on the queue array (Model/Heap.lean), so heap order
  and tie-breaking are part of the correspondence, and "earliest deadline first" is a theorem
  about that algorithm (`Heap.pop_ordered`), not an assumption.
-/
import IpfixModel.Lemmas.Sched
import IpfixModel.Lemmas.SchedOrder
import IpfixModel.Spec.C06
namespace Ipfix.C06
open Agg

/-- the invariant: after ANY sequence of arrivals, clock advances and expiry scans - including
    scans aborted by a failing callback, retries of unready flows and drops after MaxRetries -
    the queue holds exactly one item per held flow (no flow is stranded, no entry refers to a flow
    that is gone, no flow is queued twice) and is a heap on the earlier of the two deadlines -/
theorem no_flow_stranded (a i : Nat) (ops : List Op) :
    Sched (ops.foldl step { activeT := a, inactiveT := i }) := sched_reachable a i ops

theorem sched_preserved_by_arrival (s : State) (r : InRec) (h : Sched s) : Sched (ingest s r) := sched_ingest s r h
theorem sched_preserved_by_scan (s : State) (fail : Nat → Bool) (ra : Bool) (h : Sched s) :
    Sched (scan s fail ra).1 := sched_scan s fail ra h

/-- the expiry callback is invoked only on a queued flow whose active or inactive deadline has
    passed (deadline <= scan time) and which is ready -/
theorem callback_only_when_due (s : State) (fail : Nat → Bool) (ra : Bool) (h : Sched s) :
    ∀ p ∈ (scan s fail ra).2.callbacks, p.2.ready = true ∧
      ∃ it ∈ s.pq.toList, it.key = p.1 ∧ (it.active ≤ s.now ∨ it.inactive ≤ s.now) := callback_due_ready s fail ra h

/-- conversely nothing due is left behind: after a scan that was not aborted every held flow is
    scheduled strictly in the future (positive timeouts) - so every due ready flow was handed to the
    callback, every inactive-expired one removed, every active-expired one re-armed -/
theorem after_complete_scan_all_future (s : State) (fail : Nat → Bool) (ra : Bool) (h : Sched s)
    (hA : 0 < s.activeT) (hI : 0 < s.inactiveT) (hok : (scan s fail ra).2.failed = false) :
    ∀ it ∈ (scan s fail ra).1.pq.toList, s.now < it.active ∧ s.now < it.inactive :=
  after_scan_future s fail ra h hA hI hok

/-- a new flow is scheduled at (now + active timeout, now + inactive timeout) -/
theorem new_flow_deadlines (s : State) (r : InRec) (h : Sched s) (hnew : s.find r.key = none) :
    ∃ it ∈ (ingest s r).pq.toList, it.key = r.key ∧ it.active = s.now + s.activeT ∧
      it.inactive = s.now + s.inactiveT := ingest_new_deadlines s r hnew

/-- every new record pushes the inactive deadline back and leaves the active one alone -/
theorem record_pushes_inactive_deadline (s : State) (r : InRec) (h : Sched s) (it : Item)
    (hit : it ∈ s.pq.toList) (hk : it.key = r.key) :
    { it with inactive := s.now + s.inactiveT } ∈ (ingest s r).pq.toList := ingest_existing_deadlines s r h it hit hk

/-- ... and does not touch the schedule of other flows -/
theorem other_flows_untouched (s : State) (r : InRec) (h : Sched s) (it : Item)
    (hit : it ∈ s.pq.toList) (hk : it.key ≠ r.key) : it ∈ (ingest s r).pq.toList := ingest_other_items s r it hit hk

/-- the advertised time to the next expiry is MinExpiryTime + (earliest deadline - now), never below
    MinExpiryTime; the earliest deadline is the heap's root -/
theorem next_expiry_is_earliest_deadline (s : State) (h : Sched s) (hne : s.pq.size ≠ 0) :
    (∀ it ∈ s.pq.toList, s.pq[0]!.deadline ≤ it.deadline) ∧
    nextExpiry s = (if Generated.cMinExpiryTime / 1000000 + s.pq[0]!.deadline < s.now
                    then Generated.cMinExpiryTime / 1000000
                    else Generated.cMinExpiryTime / 1000000 + s.pq[0]!.deadline - s.now) := by
  refine ⟨Heap.ordered_root_min Item.deadline h.heap, ?_⟩
  unfold nextExpiry
  dsimp only
  rw [if_pos (Nat.pos_of_ne_zero hne)]

/-- earliest deadline first: the item heap.Pop returns is the root and no remaining item is earlier -/
theorem pop_is_earliest {a a' : Array Item} {x : Item} (h : Heap.Ordered Item.deadline a)
    (hp : Heap.pop Item.deadline a = some (x, a')) :
    Heap.Ordered Item.deadline a' ∧ (∀ y ∈ a'.toList, x.deadline ≤ y.deadline) ∧ x = a[0]! :=
  Heap.pop_ordered Item.deadline h hp

/-- earliest deadline first, for a whole scan: the flows handed to the callback during one
    ForAllExpiredFlowRecordsDo are items of the queue the scan started with, handed over in
    non-decreasing order of the deadline they were queued with (the heap only loses items during
    the loop: re-armed and retried flows wait in a deferred list until the loop is over) -/
theorem callbacks_earliest_deadline_first (s : State) (fail : Nat → Bool) (ra : Bool) (h : Sched s) :
    ∃ its : List Item, (scan s fail ra).2.callbacks.map (·.1) = its.map (·.key) ∧
      (∀ it ∈ its, it ∈ s.pq.toList) ∧ its.Pairwise (fun a b => a.deadline ≤ b.deadline) :=
  scan_callbacks_ordered s fail ra h

/-! ## Refused records

  A record whose template lacks an element the aggregation is configured with is refused
  (AggregateMsgByFlowKey returns an error). The model has no such record - the scheduling
  specification says what the schedule must look like afterwards: what it was (`checkIdle`, the
  judgement of a snapshot that follows no operation on the schedule). The two lemmas show that this
  judgement is exact on the items: it accepts the unchanged snapshot and rejects any snapshot in
  which an item of a held flow has another deadline (readiness, retry count) or is gone. -/

/-- in a queue without repeated keys an item is found under its key -/
theorem findItem_self (q : List SItem) (hnd : (q.map (·.key)).Nodup) (it : SItem) (hit : it ∈ q) :
    findItem q it.key = some it :=
  pw_find SItem.key (List.pairwise_map.mp hnd) hit

/-- a refused record - like a clock advance - may leave everything as it was -/
theorem idle_accepts_unchanged (s : Snap) (hnd : (s.queue.map (·.key)).Nodup) : checkIdle s s = none := by
  have h : s.queue.find? (fun it => findItem s.queue it.key != some it) = none :=
    List.find?_eq_none.mpr fun it hit => by simp [findItem_self s.queue hnd it hit]
  simp [checkIdle, h]

/-- ... and nothing else: an item of the earlier snapshot that the later one shows differently (a deadline
    moved by a refused record, say) or not at all is reported -/
theorem idle_rejects_changed_item (pre post : Snap) (it : SItem) (hit : it ∈ pre.queue)
    (hch : findItem post.queue it.key ≠ some it) : checkIdle pre post ≠ none := by
  intro hn
  unfold checkIdle at hn
  split at hn
  · cases hn
  split at hn
  · cases hn
  split at hn
  · cases hn
  split at hn
  · cases hn
  · next hf => exact hch (by simpa using List.find?_eq_none.mp hf it hit)

/-! ## Non-vacuity: the invariant on the two shapes of defects D7 and D8 (a scan whose callback fails; a deadline
    equal to the scan time) -/
def r1 : InRec := { key := 1, flowType := 1, corr := [.str [1], .str [], .str [], .str [2], .str [], .str [], .ip4 [0,0,0,0], .num 0, .num 0, .num 0, .num 0, .ip6 zero16],
                    start := 100, end_ := 101, endReason := 2, tcpState := [], stats := [1, 1, 1, 1, 1, 1, 1, 1] }
/-- D8: the deadline equals the scan time (record at t = 0, active timeout 100, scan at t = 100) -/
example : let s := [Op.record r1, .adv 100, .scan [] false].foldl step { activeT := 100, inactiveT := 250 }
    s.flows.map (·.1) = [1] ∧ s.pq.toList.map (fun it => (it.key, it.active, it.inactive)) = [(1, 200, 250)] := by decide +kernel
/-- D7: the callback fails -/
example : let s := [Op.record r1, .adv 300, .scan [1] false].foldl step { activeT := 100, inactiveT := 250 }
    s.flows.map (·.1) = [1] ∧ s.pq.toList.map (·.key) = [1] := by decide +kernel

/-- earliest first on a concrete scan: flow 2 arrives 10 ms after flow 1, both are inactive-expired at
    t = 400; flow 1 (deadline 100) is handed over before flow 2 (deadline 110) -/
example : let s := [Op.record r1, .adv 10, .record { r1 with key := 2 }, .adv 390].foldl step { activeT := 100, inactiveT := 250 }
    (scan s (fun _ => false) false).2.callbacks.map (·.1) = [1, 2] := by decide +kernel

end Ipfix.C06
