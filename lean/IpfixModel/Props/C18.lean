/-
  C18 - Encrypted transports authenticate the peer. Property theorems only.

  Strength: PARTIAL by nature. The theorems are about the decision model `Ipfix.TLS` whose
  configurations are read off the regenerated facts (`Generated.TLS`) and whose library semantics
  (crypto/tls, crypto/x509, pion/dtls) are ASSUMED as documented in Model/TLSDecision.lean; that the
  TLS stacks behave so is observed on the real code, cell by cell, on the part of the matrix the run
  covers (gen/c18.py says what is pruned), not proved.

  The statements about the decision functions are proved for ARBITRARY certificates, names, times and
  peers; `model_satisfies_spec` (every cell of the matrix; what the property demands is met on any cell,
  `model_satisfies_spec.anyCell`) follows from them, because in the model a session and a delivery come about only
  through a handshake (`Lemmas/TLS.holds_sessionWith`), and the `*_matrix` statements and `resume_model_satisfies_spec`
  from that. What is left to `decide` over cells are the statements that say what the model DOES on given cells
  (`d11_without_hook`, `formerD11_cells`, `resume_second_refused_or_accepted_on_its_own`).

  DTLS: pion/dtls checks the certificate's name only against a `ServerName` that is a DNS name (the
  former finding D11). Since 90a2eb6 the exporter installs a `VerifyPeerCertificate` hook for an empty
  or IP `ServerName`; the hook is read off the regenerated facts (`tie_dtls_name_hook_source`,
  `tie_dtls_client`), with it the full-strength statements hold for DTLS too
  (`dtls_client_accepts_only_authenticated`, `model_satisfies_spec`, `dtls_name_check_restored`),
  and WITHOUT it the old witness goes through again (`hook_absent_reads_as_none`, `d11_without_hook`,
  `d11_witness_without_hook`) - so a tree that loses or weakens the hook breaks these theorems.
-/
import IpfixModel.Lemmas.TLS
namespace Ipfix.C18
open Ipfix.TLS Generated.TLS

/-! ## Tie lemmas: the configurations the model reasons about are the ones in /repo now -/

/-- `createClientConfig`, no client certificate: RootCAs, MinVersion TLS 1.2, ServerName passed on, nothing else -/
theorem tie_tls_client_nocert :
    libTLSClient false = { rootsSet := true, skipVerify := false, serverNamePassed := true, minVersion := 12,
                           maxVersion := 13, sendsCert := false, extendedMasterSecret := true, nameHook := noHook } := by decide +kernel

/-- `createClientConfig`, with a client certificate: the same plus Certificates -/
theorem tie_tls_client_cert :
    libTLSClient true = { rootsSet := true, skipVerify := false, serverNamePassed := true, minVersion := 12,
                          maxVersion := 13, sendsCert := true, extendedMasterSecret := true, nameHook := noHook } := by decide +kernel

/-- both branches at once: the only difference is whether a client certificate is configured -/
theorem tie_tls_client (hasCert : Bool) :
    libTLSClient hasCert = { rootsSet := true, skipVerify := false, serverNamePassed := true, minVersion := 12,
                             maxVersion := 13, sendsCert := hasCert, extendedMasterSecret := true, nameHook := noHook } := by
  cases hasCert
  · exact tie_tls_client_nocert
  · exact tie_tls_client_cert

/-- the hook of 90a2eb6 as extracted from the source: ONE func literal is assigned to a security field, on the DTLS
    path of `InitExportingProcess`, under `ServerName == "" || net.ParseIP(ServerName) != nil`; its text is the
    name check the model understands (`leaf.VerifyHostname(expectedName)` on the first raw certificate); and the
    assignments that reach it say that `config` is the `dtls.Config` literal, `tlsConfig` the caller's
    `TLSClientConfig`, and `expectedName` is `ServerName`, replaced when empty by the host of `CollectorAddress` -/
theorem tie_dtls_name_hook_source :
    hooks.map (fun h => (h.file, h.func, h.lhs, h.conds, h.body == nameCheckBody)) =
      [("pkg/exporter/process.go", "InitExportingProcess", "config.VerifyPeerCertificate",
        ["input.TLSClientConfig != nil", "!(input.CollectorProtocol == \"tcp\")", "input.CollectorProtocol == \"udp\"", "!(!ok)",
         "tlsConfig.ServerName == \"\" || net.ParseIP(tlsConfig.ServerName) != nil"], true)] ∧
    (hooks.flatMap (·.defs)).map (fun d => (d.lhs, d.rhs, d.conds.drop 4)) =
      [("tlsConfig", "input.TLSClientConfig", []),
       ("roots", "x509.NewCertPool()", []),
       ("config", "&dtls.Config{ RootCAs: roots, ExtendedMasterSecret: dtls.RequireExtendedMasterSecret, ServerName: tlsConfig.ServerName, }", []),
       ("expectedName", "tlsConfig.ServerName", ["tlsConfig.ServerName == \"\" || net.ParseIP(tlsConfig.ServerName) != nil"]),
       ("host, _, err", "net.SplitHostPort(input.CollectorAddress)",
        ["tlsConfig.ServerName == \"\" || net.ParseIP(tlsConfig.ServerName) != nil", "expectedName == \"\""]),
       ("expectedName", "host",
        ["tlsConfig.ServerName == \"\" || net.ParseIP(tlsConfig.ServerName) != nil", "expectedName == \"\"", "!(err != nil)"])] := by
  -- No string is evaluated: the second list IS the facts' (`rfl` compares literals as literals), and the hook's text is the
  -- literal `nameCheckBody` unfolds to, so its test is `beq_self_eq_true`. Evaluating `==` on a literal of this length
  -- makes the kernel turn it into bytes, at a cost quadratic in its length.
  refine ⟨?_, rfl⟩
  simp only [hooks, nameCheckBody, List.map_cons, List.map_nil, beq_self_eq_true]

/-- the exporter's `dtls.Config`: RootCAs, ServerName passed on, RequireExtendedMasterSecret, no client certificate,
    and the name check read off the hook: installed for an empty and for an IP `ServerName` (not for a DNS name,
    which pion checks itself), verifying `ServerName` or else the dialled host -/
theorem tie_dtls_client :
    libDTLSClient = { rootsSet := true, skipVerify := false, serverNamePassed := true, minVersion := 12,
                      maxVersion := 12, sendsCert := false, extendedMasterSecret := true,
                      nameHook := { onUnset := true, onIP := true, onDNS := false, hostFallback := true } } := by
  -- As in `tie_dtls_name_hook_source`: the hook's text and the text assigned are the literal `nameCheckBody` unfolds to, and
  -- `rfl` compares them as literals; evaluating the two `==` of `dtlsHookOf` on them costs the kernel as much as all the
  -- rest, which is evaluated.
  have hook (l : ConfigLit) : dtlsHookOf hooks fieldAssignments l = _ := dtlsHookOf_nameCheck rfl rfl rfl rfl
  simp only [libDTLSClient, hook]
  decide +kernel

/-- the reading of the hook is a function of the facts: with no hook extracted (the tree before 90a2eb6, or one
    that lost the assignment) the DTLS client has NO name check of its own, whatever the literal -/
theorem hook_absent_reads_as_none (assigns : List (String × String × String × String)) (l : ConfigLit) :
    dtlsHookOf [] assigns l = noHook := rfl

/-- ... and a hook whose text is not the name check (e.g. one that returns nil) is not taken for one -/
theorem hook_unrecognised_reads_as_none (h : Hook) (assigns : List (String × String × String × String)) (l : ConfigLit)
    (hb : h.body ≠ nameCheckBody) : dtlsHookOf [h] assigns l = noHook := by
  have hb' : (h.body == nameCheckBody) = false := by simpa using hb
  unfold dtlsHookOf
  by_cases hf : (h.func == "InitExportingProcess" && h.lhs == "config.VerifyPeerCertificate") = true
  · simp [List.filter, hf, hb']
  · simp [List.filter, hf]

/-- `createServerConfig` without a client CA: certificate, MinVersion TLS 1.2, no client authentication -/
theorem tie_tls_server_noca :
    libTLSServer false = { hasCert := true, clientAuth := .noClientCert, clientCAsSet := false,
                           minVersion := 12, maxVersion := 13 } := by decide +kernel

/-- `createServerConfig` with a client CA: RequireAndVerifyClientCert against that CA, MinVersion TLS 1.2 -/
theorem tie_tls_server_ca :
    libTLSServer true = { hasCert := true, clientAuth := .requireAndVerify, clientCAsSet := true,
                          minVersion := 12, maxVersion := 13 } := by decide +kernel

/-- the collector's DTLS listener: a certificate, ClientCAs set (to its own certificate) but NO
    ClientAuth: exporters are not authenticated over DTLS, with or without `CACert` (noted, not demanded by C18) -/
theorem tie_dtls_server :
    libDTLSServer = { hasCert := true, clientAuth := .noClientCert, clientCAsSet := true,
                      minVersion := 12, maxVersion := 12 } := by decide +kernel

/-- nothing in the three files mentions InsecureSkipVerify, and the only security field of a config assigned after
    its construction is the DTLS exporter's `VerifyPeerCertificate` hook (which can only refuse more) -/
theorem tie_no_insecure_skip_verify :
    insecureSkipVerifyMentions = [] ∧ weakeningAssignments = [] ∧
    fieldAssignments.map (fun a => (a.1, a.2.1, a.2.2.1, a.2.2.2 == nameCheckBody)) =
      [("pkg/exporter/process.go", "InitExportingProcess", "config.VerifyPeerCertificate", true)] := by
  refine ⟨rfl, by decide +kernel, ?_⟩
  -- as in `tie_dtls_name_hook_source`: the assigned text is compared with `nameCheckBody` as a literal
  simp only [fieldAssignments, nameCheckBody, List.map_cons, List.map_nil, beq_self_eq_true]

/-- exactly the six config literals the model reads exist (a seventh would be a configuration the model does not know) -/
theorem tie_config_literals :
    configLits.map (fun l => (l.func, l.kind)) =
      [("InitExportingProcess", "dtls.Config"), ("createClientConfig", "tls.Config"), ("createClientConfig", "tls.Config"),
       ("createServerConfig", "tls.Config"), ("createServerConfig", "tls.Config"), ("startUDPServer", "dtls.Config")] := by decide +kernel

/-- the literals set no field the model does not interpret: a session cache, a ticket-key or renegotiation
    setting, a `GetConfigForClient` / `VerifyConnection` callback, `InsecureSkipVerify` ... would each change what
    the stacks accept (e.g. a shared `ClientSessionCache` lets crypto/tls resume a session without re-verifying
    the chain against this config's RootCAs) and would have to be modelled first -/
theorem tie_config_fields_all_interpreted :
    (configLits.flatMap fun l => l.fields.map (·.1)).all
      (fun f => ["RootCAs", "ServerName", "MinVersion", "MaxVersion", "Certificates", "ClientAuth", "ClientCAs",
                 "ExtendedMasterSecret"].contains f) = true := by decide +kernel

/-- the config handed to `tls.Dial` / `tls.Listen` / `dtls.Dial` / `dtls.Listen` is the variable `config`, which
    on the TLS paths is the result of `createClientConfig(tlsConfig)` / `cp.createServerConfig()` -/
theorem tie_config_flow :
    (calls.filter (fun c => isEncryptedCallee c.callee)).map (fun c => (c.callee, c.args.getLast?)) =
      [("tls.Dial", some "config"), ("dtls.Dial", some "config"), ("tls.Listen", some "config"), ("dtls.Listen", some "config")] ∧
    (calls.filter (fun c => !isDialOrListen c.callee)).map (fun c => (c.func, c.callee, c.args, c.lhs.head?)) =
      [("InitExportingProcess", "createClientConfig", ["tlsConfig"], some "config"),
       ("startTCPServer", "createServerConfig", [], some "config")] := by decide +kernel

/-- `IsEncrypted`, `CACert`, `ServerCert`, `ServerKey` of the input reach the fields the servers read -/
theorem tie_collector_input :
    passThrough.lookup "isEncrypted" = some "input.IsEncrypted" ∧ passThrough.lookup "caCert" = some "input.CACert" ∧
    passThrough.lookup "serverCert" = some "input.ServerCert" ∧ passThrough.lookup "serverKey" = some "input.ServerKey" := by decide +kernel

/-- C18, last clause, on the extracted call structure: with security settings present
    (`TLSClientConfig != nil`, `isEncrypted`) the one transport call on the path is the TLS / DTLS one;
    and every plaintext Dial / Listen in the three files sits under the NEGATION of the security setting. -/
theorem no_plaintext_path :
    exporterDial true "tcp" = ["tls.Dial"] ∧ exporterDial true "udp" = ["dtls.Dial"] ∧
    collectorListen true "tcp" = ["tls.Listen"] ∧ collectorListen true "udp" = ["dtls.Listen"] ∧
    (∀ c ∈ calls, isDialOrListen c.callee = true → isEncryptedCallee c.callee = false →
      c.conds.contains "!(input.TLSClientConfig != nil)" = true ∨ c.conds.contains "!(cp.isEncrypted)" = true) := by decide +kernel

/-- the six configurations and the four "encrypted call on the path" flags at once, in the form the matrix proofs use -/
theorem tie_libCfgs :
    libCfgs =
      { tlsClientNoCert := { rootsSet := true, skipVerify := false, serverNamePassed := true, minVersion := 12,
                             maxVersion := 13, sendsCert := false, extendedMasterSecret := true, nameHook := noHook }
        tlsClientCert := { rootsSet := true, skipVerify := false, serverNamePassed := true, minVersion := 12,
                           maxVersion := 13, sendsCert := true, extendedMasterSecret := true, nameHook := noHook }
        dtlsClient := { rootsSet := true, skipVerify := false, serverNamePassed := true, minVersion := 12,
                        maxVersion := 12, sendsCert := false, extendedMasterSecret := true,
                        nameHook := { onUnset := true, onIP := true, onDNS := false, hostFallback := true } }
        tlsServerNoCA := { hasCert := true, clientAuth := .noClientCert, clientCAsSet := false, minVersion := 12, maxVersion := 13 }
        tlsServerCA := { hasCert := true, clientAuth := .requireAndVerify, clientCAsSet := true, minVersion := 12, maxVersion := 13 }
        dtlsServer := { hasCert := true, clientAuth := .noClientCert, clientCAsSet := true, minVersion := 12, maxVersion := 12 }
        exporterEncryptsTCP := true, exporterEncryptsUDP := true, collectorEncryptsTCP := true, collectorEncryptsUDP := true } := by
  -- put together from the single ties: a `decide` here would read every configuration off the source text once more
  obtain ⟨h1, h2, h3, h4, _⟩ := no_plaintext_path
  simp only [libCfgs, tie_tls_client_nocert, tie_tls_client_cert, tie_dtls_client, tie_tls_server_noca, tie_tls_server_ca,
    tie_dtls_server, exporterEncrypts, collectorEncrypts, h1, h2, h3, h4]
  -- what is left: each of the four calls found on the paths is an encrypted one
  rfl

/-! ## The exporter authenticates the collector (TLS and DTLS) -/

/-- C18, first clause, for the crypto/tls client with the configuration `createClientConfig` builds,
    for ARBITRARY server certificates, names, times and server configurations: if the handshake can
    complete then the certificate chains to the configured CA, is within its validity period, is
    valid for the expected name or address (ServerName if set, else the dialled host) and the
    negotiated version is at least TLS 1.2. -/
theorem client_accepts_only_authenticated (hasCert : Bool) (serverName : Option Name) (host : Name) (cert : PeerCert)
    (t : Nat) (srv : ServerCfg) (v : Version)
    (hv : negotiate (libTLSClient hasCert) srv = some v)
    (ha : cryptoTLSVerifiesServer (libTLSClient hasCert) serverName host cert t = true) :
    cert.issuer = .trustedCA ∧ (cert.notBefore ≤ t ∧ t ≤ cert.notAfter) ∧
    nameMatches (serverName.getD host) cert = true ∧ 12 ≤ v := by
  rw [tie_tls_client hasCert] at hv ha
  obtain ⟨⟨_, hissuer⟩, hvalid, hname⟩ := (cryptoTLSVerifiesServer_iff rfl).1 ha
  obtain ⟨_, h12, _⟩ := negotiate_eq_some hv
  -- the configuration passes `ServerName` on and has MinVersion 1.2
  exact ⟨hissuer, hvalid, hname, h12⟩

/-- C18, third clause ("with DTLS the exporter likewise refuses servers it cannot verify"), now at full strength:
    for the pion client with the exporter's `dtls.Config` AND the exporter's hook, for ARBITRARY server
    certificates, names, dialled hosts and times: an accepted certificate chains to the configured CA, is within
    its validity period and is valid for the expected name or address (ServerName if set, else the dialled
    host). The version is DTLS 1.2 (pion speaks nothing else; `tie_dtls_client`: min = max = 12). -/
theorem dtls_client_accepts_only_authenticated (serverName : Option Name) (host : Name) (cert : PeerCert) (t : Nat)
    (ha : pionVerifiesServer libDTLSClient serverName host cert t = true) :
    cert.issuer = .trustedCA ∧ (cert.notBefore ≤ t ∧ t ≤ cert.notAfter) ∧
    nameMatches (serverName.getD host) cert = true := by
  rw [tie_dtls_client, pionVerifiesServer, Bool.and_eq_true] at ha
  obtain ⟨hown, hhook⟩ := ha
  obtain ⟨⟨_, hissuer⟩, hvalid, hname⟩ := (pionOwnVerification_iff rfl).1 hown
  refine ⟨hissuer, hvalid, ?_⟩
  -- pion itself checks a DNS `ServerName`; the hook checks an IP literal, and the dialled host when there is none
  match serverName with
  | none => exact (hookVerifiesName_iff.1 hhook rfl).2
  | some (.ip s) => exact hookVerifiesName_iff.1 hhook rfl
  | some (.dns s) => exact hname _ rfl

/-! ## The collector authenticates exporters when it has a client CA (TLS) -/

/-- C18, second clause, for the crypto/tls server with the configuration `createServerConfig` builds when
    a client CA is given, for ARBITRARY clients: the handshake is accepted only if the client presented
    a certificate, and that certificate is issued by the configured CA and within validity. -/
theorem collector_requires_client_cert (client : ClientCfg) (clientCert : Option PeerCert) (t : Nat)
    (h : serverAcceptsClient (libTLSServer true) (presented client clientCert (libTLSServer true)) t = true) :
    ∃ c, clientCert = some c ∧ c.issuer = .trustedCA ∧ c.notBefore ≤ t ∧ t ≤ c.notAfter := by
  rw [tie_tls_server_ca] at h
  obtain ⟨c, hp, _, hissuer, hvalid⟩ := (serverAcceptsClient_requireAndVerify rfl).1 h
  exact ⟨c, presented_eq_some hp, hissuer, hvalid⟩

/-! ## The model against the specification -/

/-- on EVERY cell of the matrix the model's outcome satisfies the property predicate -/
theorem model_satisfies_spec (c : Cell) (hv : c.valid = true) :
    holdsOn c (obsOf (session c)) = .holds :=
  holdsOn_eq_holds_iff.2 ⟨hv, anyCell c⟩
where
  /-- the demands of the property are met on any cell, of the matrix or not: `holds_sessionWith` at the configurations of
      the code, which accept in a handshake what the three general theorems above say -/
  anyCell (c : Cell) : Holds c (obsOf (session c)) := by
    obtain ⟨he, hc⟩ : libCfgs.exporterEncrypts c.transport = true ∧ libCfgs.collectorEncrypts c.transport = true := by
      rw [tie_libCfgs]
      cases c.transport <;> exact ⟨rfl, rfl⟩
    refine holds_sessionWith he hc (fun hu lib cl sv v hcl hn hver => ?_) fun cl h => ?_
    · rw [clientSide_exporter he hu] at hcl
      cases ht : c.transport <;> rw [ht] at hcl <;> cases hcl
      · rw [libCfgs_tlsClient] at hn hver
        obtain ⟨hissuer, hvalid, hname, h12⟩ := client_accepts_only_authenticated _ _ _ _ _ _ _ hn hver
        exact ⟨serverChains_iff.2 hissuer, serverInValidity_iff.2 hvalid, hname, h12⟩
      · rw [libCfgs_dtlsClient] at hn hver
        obtain ⟨hissuer, hvalid, hname⟩ := dtls_client_accepts_only_authenticated _ _ _ _ hver
        -- pion speaks DTLS 1.2 only
        have h12 := (negotiate_eq_some hn).2.1
        rw [tie_dtls_client] at h12
        exact ⟨serverChains_iff.2 hissuer, serverInValidity_iff.2 hvalid, hname, h12⟩
    · rw [libCfgs_tlsServer] at h
      exact clientAuthentic_iff.2 (collector_requires_client_cert cl _ now h)

/-- the correspondence relation is equality of observations, so the predicate transfers trivially -/
theorem transfer (c : Cell) (o : Obs) (hR : o = obsOf (session c)) (hv : c.valid = true) :
    holdsOn c o = .holds := hR ▸ model_satisfies_spec c hv

/-! ## The same over the matrix -/

/-- C18, last clause, on the model of the sessions (on the extracted call structure: `no_plaintext_path` above): a
    plaintext peer never gets a session with, nor a message through, an endpoint that has security settings -/
theorem no_plaintext_session (c : Cell) (hp : c.peer = .plainSrv ∨ c.peer = .plainCli ∨ c.peer = .rawPlainCli) :
    (session c).delivered = false ∧ (c.peer = .plainSrv → (session c).initOk = false) := by
  have hs := model_satisfies_spec.anyCell c
  constructor
  · rcases hp with h | h | h
    · exact hs.plaintext h
    all_goals
      -- the library's collector may not deliver what a plaintext client sent
      cases hd : (session c).delivered
      · rfl
      · have := hs.delivery (by simp [Cell.collectorUnderTest, h]) hd
        simp [deliveryAllowed, clientEncrypted, h] at this
  · intro h
    -- the library's exporter may not complete a session with a plaintext listener
    cases hi : (session c).initOk
    · rfl
    · have := (hs.session (by simp [Cell.exporterUnderTest, h]) hi).1
      simp [sessionAllowed, serverEncrypted, h] at this

/-- the same over the matrix, for BOTH transports: whenever the model lets the exporter complete a session, the
    cell is one where the property allows it -/
theorem client_accepts_only_authenticated_matrix (c : Cell) (hv : c.valid = true) (hu : c.exporterUnderTest = true)
    (hi : (session c).initOk = true) : sessionAllowed c = true :=
  ((holdsOn_eq_holds_iff.1 (model_satisfies_spec c hv)).2.session hu hi).1

/-- the same over the matrix: with a client CA set, the TLS collector of the model delivers only in cells
    where the client's certificate is issued by that CA and valid -/
theorem collector_requires_client_cert_matrix (c : Cell) (ht : c.transport = .tls) (hu : c.collectorUnderTest = true)
    (hca : c.clientCA = true) (hd : (session c).delivered = true) : clientAuthentic c = true := by
  have := (model_satisfies_spec.anyCell c).delivery hu hd
  simp [deliveryAllowed, ht, hca] at this
  exact this.2

/-! ## DTLS: what the repair of D11 bought, and what the tree is without it -/

/-- pion's OWN verification with the exporter's `dtls.Config`, which is all there was before 90a2eb6: an accepted
    certificate chains to the configured CA and is within validity; its NAME is checked only against a
    `ServerName` that is set and not an IP literal -/
theorem pion_own_verification_partial (serverName : Option Name) (cert : PeerCert) (t : Nat)
    (ha : pionOwnVerification libDTLSClient serverName cert t = true) :
    cert.issuer = .trustedCA ∧ (cert.notBefore ≤ t ∧ t ≤ cert.notAfter) ∧
    (∀ s, serverName = some (.dns s) → nameMatches (.dns s) cert = true) := by
  rw [tie_dtls_client] at ha
  obtain ⟨⟨_, hissuer⟩, hvalid, hname⟩ := (pionOwnVerification_iff rfl).1 ha
  refine ⟨hissuer, hvalid, ?_⟩
  intro s hs
  subst hs
  exact hname _ rfl

/-- ... and it is strictly weaker than the property: a certificate of the trusted CA for other.example / 10.9.9.9
    passes it with `ServerName` unset or an IP literal, although the server is dialled at 127.0.0.1 -/
theorem pion_own_verification_checks_no_name :
    pionOwnVerification libDTLSClient none (serverCertOf .wrongSAN) now = true ∧
    pionOwnVerification libDTLSClient (some (.ip "127.0.0.1")) (serverCertOf .wrongSAN) now = true ∧
    nameMatches dialHost (serverCertOf .wrongSAN) = false := by
  rw [tie_dtls_client]
  decide

/-- the repair: in every cell of the former finding D11 (DTLS, `ServerName` unset or an IP literal, certificate of
    the trusted CA, within validity, NOT valid for the expected name / address) the exporter's session is now
    refused and nothing is delivered -/
theorem dtls_name_check_restored (c : Cell) (hk : formerD11 c = true) :
    (session c).initOk = false ∧ (session c).delivered = false := by
  obtain ⟨_, hp, _, _, _, hname⟩ := formerD11_eq_true_iff.1 hk
  have hs := model_satisfies_spec.anyCell c
  have hi : (session c).initOk = false := by
    -- a completed session would be one the property allows, so the name would match
    cases hi : (session c).initOk
    · rfl
    · have := (hs.session (by simp [Cell.exporterUnderTest, hp]) hi).1
      simp [sessionAllowed, hname] at this
  exact ⟨hi, hs.wellFormed hi⟩

/-- the old witness of D11, refused now; the same certificate is refused by the TLS exporter and by the DTLS
    exporter with a DNS `ServerName` (as it always was) -/
theorem name_checked_everywhere :
    (session { transport := .dtls, serverCert := .wrongSAN, serverName := .unset, clientCert := .none,
               clientCA := false, peer := .real }).initOk = false ∧
    (session { transport := .dtls, serverCert := .wrongSAN, serverName := .ip, clientCert := .none,
               clientCA := false, peer := .real }).initOk = false ∧
    (session { transport := .tls, serverCert := .wrongSAN, serverName := .unset, clientCert := .none,
               clientCA := false, peer := .real }).initOk = false ∧
    (session { transport := .dtls, serverCert := .wrongSAN, serverName := .dns, clientCert := .none,
               clientCA := false, peer := .real }).initOk = false := by
  simp only [session, tie_libCfgs]
  decide +kernel

/-- the hook does not refuse everybody: a certificate valid for the dialled 127.0.0.1 / for localhost is accepted
    by the DTLS exporter with `ServerName` unset, "127.0.0.1" and "localhost", and the message is delivered -/
theorem dtls_valid_names_still_accepted (sn : ServerNameKind) (h : sn = .unset ∨ sn = .ip ∨ sn = .dns) :
    session { transport := .dtls, serverCert := .trusted, serverName := sn, clientCert := .none,
              clientCA := false, peer := .real } = { initOk := true, delivered := true, version := none } := by
  simp only [session, tie_libCfgs]
  rcases h with rfl | rfl | rfl <;> decide +kernel

/-- the tie is meaningful: with the hook taken away (`hook_absent_reads_as_none`: that IS what the model reads off
    a tree without the assignment) every former D11 cell completes its session, delivers the message and fails
    the property predicate with `name-mismatch` - and no other valid cell fails -/
theorem d11_without_hook (c : Cell) (hv : c.valid = true) :
    holdsOn c (obsOf (sessionWith libCfgs.withoutDTLSHook c)) =
      if formerD11 c then .fails "name-mismatch" else .holds := by
  cases ht : c.transport
  · -- TLS: the hook is not consulted, and no TLS cell is a former D11 cell
    rw [sessionWith_withoutDTLSHook_tls _ ht, if_neg (by simp [formerD11, ht])]
    exact model_satisfies_spec c hv
  · -- DTLS: the listener asks for no client certificate and the property demands none of it, so the client's certificate
    -- and the client CA do not enter: the cells with neither stand for all
    rw [sessionWith_dtls (by rw [tie_libCfgs]; rfl) ht hv]
    obtain ⟨t, sc, sn, cc, ca, p⟩ := c
    subst ht
    replace hv : Cell.valid ⟨.dtls, sc, sn, .none, false, p⟩ = true := hv
    show holdsOn ⟨.dtls, sc, sn, .none, false, p⟩ _ = if formerD11 ⟨.dtls, sc, sn, .none, false, p⟩ then _ else _
    simp only [tie_libCfgs, LibCfgs.withoutDTLSHook]
    revert sc sn p
    decide +kernel

/-- the old witness, spelled out: without the hook and with `ServerName` unset the exporter completes a session
    (and the message is delivered) with a server whose certificate - issued by the configured CA, within
    validity - is for other.example / 10.9.9.9, not for the dialled 127.0.0.1 -/
theorem d11_witness_without_hook :
    let c : Cell := { transport := .dtls, serverCert := .wrongSAN, serverName := .unset, clientCert := .none,
                      clientCA := false, peer := .real }
    let o := sessionWith libCfgs.withoutDTLSHook c
    o.initOk = true ∧ o.delivered = true ∧ sessionAllowed c = false ∧
    nameMatches (expectedName c) (serverCertOf c.serverCert) = false ∧
    holdsOn c (obsOf o) = .fails "name-mismatch" ∧ (session c).initOk = false := by
  simp only [session, tie_libCfgs, LibCfgs.withoutDTLSHook]
  decide +kernel

/-- the former D11 cells are exactly these 56: DTLS, library on both sides, any client certificate / client CA,
    and (ServerName, server certificate) one of the seven pairs -/
theorem formerD11_cells (c : Cell) :
    formerD11 c = (c.transport == .dtls && c.peer == .real &&
      [(ServerNameKind.unset, ServerCertKind.wrongSAN), (.unset, .noSAN), (.ip, .wrongSAN), (.ip, .noSAN),
       (.badIp, .trusted), (.badIp, .wrongSAN), (.badIp, .noSAN)].contains (c.serverName, c.serverCert)) := by
  obtain ⟨t, sc, sn, cc, ca, p⟩ := c
  -- the client's certificate and the client CA do not enter
  simp only [formerD11, serverChains, serverInValidity, serverNameOK, expectedName]
  revert t sc sn p
  decide +kernel

/-! ## Every session is authenticated on its own (two exporters of one process, the same collector) -/

/-- in the model the outcome of the SECOND exporter does not depend on the first one: not on its trust settings,
    and therefore not on whether it completed a session (there is no session state to resume; that the code has
    none either is `tie_config_fields_all_interpreted`, and the `tls resume` ops of the run observe it) -/
theorem resume_independent (L : LibCfgs) (r r' : Resume) (ht : r.transport = r'.transport) (hp : r.peer = r'.peer)
    (hs : r.second = r'.second) : (resumeWith L r).2 = (resumeWith L r').2 := by
  simp [resumeWith, Resume.cell, Resume.obsVersion, ht, hp, hs]

/-- ... it is the outcome of a fresh session of an exporter with the second one's configuration -/
theorem resume_second_is_own_session (L : LibCfgs) (r : Resume) :
    (resumeWith L r).2 = r.obsVersion (sessionWith L (r.cell r.second)) ∧
    (resumeWith L r).1 = r.obsVersion (sessionWith L (r.cell r.first)) := ⟨rfl, rfl⟩

/-- the predicate is the property: a completed session without a defect is one `sessionAllowed` permits -/
theorem sessionDefect_none (c : Cell) (o : Obs) (h : sessionDefect c o = none) : sessionAllowed c = true :=
  (sessionDefect_eq_none_iff.1 h).1

/-- what `holdsOnResume` demands, for ARBITRARY observations: if it holds and the second exporter completed its
    session, then the collector's certificate chains to the CA the SECOND exporter is configured with (`ca1`, the
    issuer) and matches the name the SECOND exporter expects - whatever the first exporter trusted or achieved -/
theorem resume_spec_demands_own_authentication (r : Resume) (a b : Obs) (h : holdsOnResume r a b = .holds)
    (hb : b.initOk = true) :
    r.second.ca = .ca1 ∧ sessionAllowed (r.cell r.second) = true := by
  have hall := sessionDefect_none _ _ ((holdsOnResume_holds_iff.1 h).2.2.2.2 hb)
  refine ⟨?_, hall⟩
  -- a certificate seen by an exporter that trusts the other CA does not chain
  cases hca : r.second.ca
  · rfl
  · simp [sessionAllowed, serverChains_cell, hca] at hall

/-- the model against the specification: on every sequence of the run the model's two outcomes satisfy it -/
theorem resume_model_satisfies_spec (r : Resume) (hv : r.valid = true) :
    holdsOnResume r (obsOf (resume r).1) (obsOf (resume r).2) = .holds :=
  -- each exporter judged on its own cell. (That of a DTLS sequence is none of the matrix: it has the raw peer `srv12`,
  -- which `Cell.valid` admits for TLS only.)
  holdsOnResume_of_holds hv ((model_satisfies_spec.anyCell _).obsVersion r) ((model_satisfies_spec.anyCell _).obsVersion r)

/-- in the model a second exporter configured with the other CA is refused, also right after a first exporter
    configured with the issuing CA got through; and one configured with the issuing CA and a matching name gets
    through, also right after a first exporter that was refused (the statement is not met by refusing everybody) -/
theorem resume_second_refused_or_accepted_on_its_own (r : Resume) (hv : r.valid = true) :
    (r.second.ca = .ca2 → (resume r).2.initOk = false ∧ (resume r).2.delivered = false) ∧
    (r.second.ca = .ca1 → (r.second.serverName = .unset ∨ r.second.serverName = .dns ∨ r.second.serverName = .ip) →
      (resume r).2.initOk = true ∧ (resume r).2.delivered = true) := by
  simp only [resume, resumeWith, tie_libCfgs, Resume.valid, Resume.obsVersion, Resume.cell] at hv ⊢
  -- the first exporter's settings do not enter
  generalize r.transport = t, r.peer = p, r.second.ca = ca, r.second.serverName = sn at hv ⊢
  revert t p ca sn
  decide +kernel

/-- the observation a shared session cache produces (exporter A, configured with the issuing CA, gets through; exporter
    B, configured with the OTHER CA only, resumes A's session, gets through and delivers) FAILS the predicate -/
theorem resumed_session_fails_spec (r : Resume) (hv : r.valid = true) (a b : Obs) (h2 : r.second.ca = .ca2)
    (ha : exporterDefect (r.cell r.first) a = none) (hwa : (!a.initOk && a.delivered) = false)
    (hb : b.initOk = true) :
    holdsOnResume r a b = .fails "second-session-untrusted-chain" := by
  have hpl : (r.cell r.second).peer ≠ .plainSrv := by
    intro (hp : r.peer = .plainSrv)
    cases ht : r.transport <;> simp [Resume.valid, hp, ht] at hv
  have hd : exporterDefect (r.cell r.second) b = some "untrusted-chain" := by
    simp [exporterDefect, hb, sessionDefect, serverEncrypted, hpl, serverChains_cell, h2]
  simp [holdsOnResume, hv, ha, hd, hb, hwa]

/-! ## Non-vacuity -/

-- valid peers DO get through (the safety statements above are not satisfied by refusing everybody)
example : session { transport := .tls, serverCert := .trusted, serverName := .unset, clientCert := .trusted,
                    clientCA := true, peer := .real } = { initOk := true, delivered := true, version := none } := by
  simp only [session, tie_libCfgs]
  decide
example : session { transport := .dtls, serverCert := .trusted, serverName := .dns, clientCert := .none,
                    clientCA := false, peer := .real } = { initOk := true, delivered := true, version := none } := by
  simp only [session, tie_libCfgs]
  decide
example : session { transport := .tls, serverCert := .trusted, serverName := .dns, clientCert := .none,
                    clientCA := false, peer := .srv12 } = { initOk := true, delivered := true, version := some 12 } := by
  simp only [session, tie_libCfgs]
  decide
-- TLS 1.1 peers are refused in both directions
example : (session { transport := .tls, serverCert := .trusted, serverName := .dns, clientCert := .none,
                     clientCA := false, peer := .srv11 }).initOk = false := by
  simp only [session, tie_libCfgs]
  decide
example : (session { transport := .tls, serverCert := .trusted, serverName := .dns, clientCert := .none,
                     clientCA := false, peer := .cli11 }).initOk = false := by
  simp only [session, tie_libCfgs]
  decide
-- a client without certificate completes its TLS 1.3 handshake but nothing is delivered
example : session { transport := .tls, serverCert := .trusted, serverName := .dns, clientCert := .none,
                    clientCA := true, peer := .real } = { initOk := true, delivered := false, version := none } := by
  simp only [session, tie_libCfgs]
  decide
-- hypotheses of the general theorems are satisfiable
example : negotiate (libTLSClient false) (libTLSServer true) = some 13 := by
  rw [tie_tls_client, tie_tls_server_ca]
  decide
example : cryptoTLSVerifiesServer (libTLSClient false) none dialHost (serverCertOf .trusted) now = true := by
  rw [tie_tls_client]
  decide
example : serverAcceptsClient (libTLSServer true) (presented (libTLSClient true) (clientCertOf .trusted) (libTLSServer true)) now = true := by
  rw [tie_tls_client, tie_tls_server_ca]
  decide
example : pionVerifiesServer libDTLSClient (some (.dns "localhost")) dialHost (serverCertOf .trusted) now = true := by
  rw [tie_dtls_client]
  decide
example : pionVerifiesServer libDTLSClient none dialHost (serverCertOf .trusted) now = true := by
  rw [tie_dtls_client]
  decide
example : pionVerifiesServer libDTLSClient none (.dns "localhost") (serverCertOf .trusted) now = true := by
  rw [tie_dtls_client]
  decide
example : pionVerifiesServer libDTLSClient (some (.ip "127.0.0.1")) (.dns "elsewhere.example") (serverCertOf .trusted) now = true := by
  rw [tie_dtls_client]
  decide
example : (formerD11 { transport := .dtls, serverCert := .noSAN, serverName := .ip, clientCert := .none, clientCA := false, peer := .real }) = true := by decide +kernel
-- the reader of the hook follows the facts: a hook installed only for an empty ServerName leaves the IP cells open, and one
-- whose `expectedName` never falls back to the dialled host verifies the empty name, which nothing matches
example : hookVerifiesName { onUnset := true, onIP := false, onDNS := false, hostFallback := true } (some (.ip "127.0.0.1")) dialHost (serverCertOf .wrongSAN) = true := by decide +kernel
example : hookVerifiesName { onUnset := true, onIP := true, onDNS := false, hostFallback := false } none dialHost (serverCertOf .trusted) = false := by decide +kernel
example : condHolds "tlsConfig.ServerName == \"\"" = (true, false, false) := by decide +kernel
example : condHolds "true" = (false, false, false) := by decide +kernel

end Ipfix.C18
