/-
  C12 - Collector under many clients. Property theorems (statements here, invariants in Lemmas/Mux.lean).

  PARTIAL. What is PROVED, for every number of connections, every message list and EVERY schedule (an
  arbitrary list of scheduler choices, no bound): the queueing logic of Model/Mux.lean - one sequential
  reader per connection, one rendezvous channel to the consumer - delivers every accepted message
  exactly once, in the connection's order, invents nothing, loses nothing over TCP/TLS and at most
  drops (never duplicates) over UDP; the client map is exactly the set of unfinished handlers; after
  Stop nothing moves; and the lock discipline of CollectingProcess as extracted from the current tree
  (Generated/LocksCollector.lean) by `decide`.
  What is NOT proved, because the model cannot exhibit it: goroutine and socket leaks, the latency of
  Stop(), the absence of data races at run time. These are OBSERVED by harness-mux on the real
  collector (race detector, goroutine profile, re-bind of the port) and judged by `Ipfix.C12.holdsOn`.
-/
import IpfixModel.Lemmas.Mux
namespace Ipfix.C12
open Ipfix.Mux

/-- TCP/TLS, every schedule: what connection `c` sent is, in order and without gaps, what the consumer
    received from it, then the (at most one) message its reader holds, then what is still unread. So the
    delivered sub-sequence of `c` is exactly the prefix of c's messages that c has pushed: each exactly
    once, in order. And "accepted" is "delivered, or in the reader's hand". -/
theorem per_connection_fifo (conns : List (ConnId × List Msg)) (sched : List Choice) (c : ConnId) :
    let s := run false (init conns) sched
    deliveredOf s c ++ getL s.hand c ++ getL s.pending c = getL conns c ∧
    acceptedOf s c = deliveredOf s c ++ getL s.hand c ∧ (getL s.hand c).length ≤ 1 :=
  have inv := run_inv false conns sched
  ⟨(inv.acc.lineOf_eq c).symm.trans ((inv.line c).2 rfl), inv.acc c⟩

/-- ... in particular a prefix of what it sent -/
theorem delivered_prefix_of_sent (conns : List (ConnId × List Msg)) (sched : List Choice) (c : ConnId) :
    deliveredOf (run false (init conns) sched) c <+: getL conns c := by
  have h := (per_connection_fifo conns sched c).1
  exact ⟨_, by rw [← h, List.append_assoc]⟩

/-- once Stop() has returned (both transports), every accepted message has been delivered: exactly once,
    in order - nothing is stuck in a reader -/
theorem accepted_all_delivered_after_stop (udp : Bool) (conns : List (ConnId × List Msg)) (sched : List Choice)
    (c : ConnId) (h : (run udp (init conns) sched).stopped = true) :
    acceptedOf (run udp (init conns) sched) c = deliveredOf (run udp (init conns) sched) c := by
  have inv := run_inv udp conns sched
  rw [(inv.acc c).1, (inv.stop h).1 c, List.append_nil]

/-- the delivered list is an interleaving of per-connection prefixes - nothing invented: replaying it
    against the queues, every delivery is the head of its connection's queue, and what is left of the
    queues is what the readers hold and have not read -/
theorem delivered_is_interleaving (conns : List (ConnId × List Msg)) (sched : List Choice) :
    let s := run false (init conns) sched
    ∃ q, replay conns s.delivered = some q ∧ ∀ c, getL q c = getL s.hand c ++ getL s.pending c :=
  have inv := run_inv false conns sched
  replay_of_prefix conns _ _ fun c => by
    rw [← (inv.line c).2 rfl, inv.acc.lineOf_eq c, deliveredOf, List.append_assoc]

/-- UDP (datagrams may be dropped before acceptance, at any point of any schedule): the delivered
    messages of a connection are a sub-sequence of what it sent, and - the message ids of a connection
    being distinct - none is delivered twice -/
theorem udp_at_most_once (conns : List (ConnId × List Msg)) (sched : List Choice) (c : ConnId)
    (hid : (getL conns c).Nodup) :
    let s := run true (init conns) sched
    (deliveredOf s c).Sublist (getL conns c) ∧ (deliveredOf s c).Nodup ∧
    acceptedOf s c = deliveredOf s c ++ getL s.hand c := by
  intro s
  have inv := run_inv true conns sched
  have hd : (deliveredOf s c).Sublist (getL conns c) := by
    have h := (inv.line c).1
    rw [inv.acc.lineOf_eq c] at h
    exact ((List.sublist_append_left _ _).trans (List.sublist_append_left _ _)).trans h
  exact ⟨hd, hid.sublist hd, (inv.acc c).1⟩

/-- the client map is exactly the set of connections whose handler has started and not finished (no
    entry twice); when every client that connected has disconnected it is empty; and it is empty once
    Stop() has returned -/
theorem conn_count_returns (udp : Bool) (conns : List (ConnId × List Msg)) (sched : List Choice) :
    let s := run udp (init conns) sched
    s.live.Nodup ∧ (∀ c, c ∈ s.live ↔ (c ∈ s.started ∧ c ∉ s.done)) ∧
    ((∀ c, c ∈ s.started → c ∈ s.done) → s.live = []) ∧ (s.stopped = true → s.live = []) := by
  intro s
  have inv := run_inv udp conns sched
  obtain ⟨hn, hiff⟩ := inv.live.mem_live
  refine ⟨hn, hiff, fun hall => List.eq_nil_iff_forall_not_mem.2 fun c hc => ?_, fun h => (inv.stop h).2⟩
  exact ((hiff c).1 hc).2 (hall c ((hiff c).1 hc).1)

/-- after `stop` nothing further is delivered (nor accepted, nor does any handler come back): the state is frozen -/
theorem stop_stops (udp : Bool) (s : State) (sched : List Choice) (h : s.stopped = true) : run udp s sched = s :=
  run_stopped udp s sched h

/-- ... stated on schedules: whatever is scheduled after the point where Stop() returned changes nothing -/
theorem nothing_delivered_after_stop (udp : Bool) (conns : List (ConnId × List Msg)) (before after : List Choice)
    (h : (run udp (init conns) before).stopped = true) :
    (run udp (init conns) (before ++ after)).delivered = (run udp (init conns) before).delivered := by
  rw [run_append, run_stopped udp _ after h]

/-- `stop` takes effect exactly when no reader is blocked on the channel ("provided the consumer keeps draining") -/
theorem stop_enabled_iff (udp : Bool) (s : State) (h : s.stopped = false) :
    (step udp s .stop).stopped = true ↔ handsEmpty s = true := by
  unfold step
  simp only [h, Bool.false_eq_true, if_false]
  by_cases he : handsEmpty s = true
  · simp [he]
  · simp [he, h]

/-- the model satisfies the executable specification that is evaluated on real runs: for every schedule
    `fifoWhyOn` finds nothing to object to - prefix mode at any moment over TCP/TLS, exact mode once
    everything sent has been read and handed over, sub-sequence mode over UDP with drops -/
theorem model_satisfies_spec (conns : List (ConnId × List Msg)) (hid : ∀ c, (getL conns c).Nodup) (sched : List Choice) :
    fifoWhyOn .pref conns (run false (init conns) sched).delivered = none ∧
    (quiescent (run false (init conns) sched) = true → fifoWhyOn .exact conns (run false (init conns) sched).delivered = none) ∧
    fifoWhyOn .subseq conns (run true (init conns) sched).delivered = none := by
  refine ⟨fifoWhyOn_none hid fun c => connOK_pref.2 (delivered_prefix_of_sent conns sched c),
    fun hq => fifoWhyOn_none hid fun c => connOK_exact.2 ?_, ?_⟩
  · -- quiescent: nothing in hand, nothing unread, so everything sent has been delivered
    have h := (per_connection_fifo conns sched c).1
    simp only [quiescent, Bool.and_eq_true] at hq
    rwa [allEmpty_getL hq.2 c, allEmpty_getL hq.1 c, List.append_nil, List.append_nil] at h
  · have hU := fun c => udp_at_most_once conns sched c (hid c)
    exact fifoWhyOn_none hid fun c => connOK_subseq.2 ⟨(hU c).1, (hU c).2.1⟩

/-- ... and the hypothesis is met by every scenario the harness runs: client i numbers its messages 0 .. n-1 -/
theorem model_satisfies_spec_scenario (sc : Scenario) (sched : List Choice) :
    fifoWhyOn .pref sc.sent (run false (init sc.sent) sched).delivered = none ∧
    (quiescent (run false (init sc.sent) sched) = true → fifoWhyOn .exact sc.sent (run false (init sc.sent) sched).delivered = none) ∧
    fifoWhyOn .subseq sc.sent (run true (init sc.sent) sched).delivered = none :=
  model_satisfies_spec sc.sent (scenario_sent_nodup sc) sched

/-! ## lock discipline (facts regenerated from /repo by tools/lockfacts-collector) -/
open Locks Generated.LocksCollector

/-- every access to clients / templatesMap / netAddress / numOfRecordsReceived that can happen in some
    goroutine is made under cp.mutex (exclusive for writes; taken in the function itself or held by every
    caller, as for createUDPClient) - or is a read by the only goroutine that ever writes the field -/
theorem lock_discipline_collector :
    accesses.all (fun a => !fromRoot a || guarded a || ownerRead a) = true := by decide +kernel

/-- the guarded subset, without the escape clause: every access to clients, templatesMap and
    numOfRecordsReceived, and every WRITE of netAddress, is under cp.mutex -/
theorem lock_discipline_collector_partial :
    (accesses.filter (fun a => a.field != "netAddress" || a.write)).all (fun a => !fromRoot a || guarded a) = true := by decide +kernel

/-- witness for what the partial theorem leaves out: every access NOT under the lock is a read of
    netAddress (the klog lines of startTCPServer / startUDPServer right after updateAddress) in code
    reachable from the application's Start() call only -/
theorem unguarded_accesses_are_start_reads :
    unguarded.all (fun a => a.field == "netAddress" && !a.write && a.roots == ["Start"]) = true := by decide +kernel

/-- the table is about the real struct: one mutex, the four shared fields exist -/
theorem tie_struct_shape :
    structName = "CollectingProcess" ∧ mutexFields = ["mutex"] ∧
    sharedFields.all (fun f => (structFields.map (·.1)).contains f) = true := by decide +kernel

/-- decodeDataSet reads a stored template's element list AFTER getTemplateIEs has released the read lock.
    That is free of data races only because a published element list is never changed in place - a new
    definition of the template installs a NEW list. The translator lists every syntactic use of `.ies`
    that could change a list in place (re-slicing, append to it, copy into it, assignment to one of its
    elements); there is none. (A change of this kind is a data race between two exporters that share an
    observation domain and template id - a schedule no deterministic input reproduces - so it is tied here.) -/
theorem tie_template_elements_never_changed_in_place : templateIesInPlace = [] := by decide

/-- The collector arms NO deadline on any connection: the translator lists every call of a method named
    SetDeadline / SetReadDeadline / SetWriteDeadline in the non-test files of pkg/collector, as (enclosing
    function, method); there is none. The model's connections deliver whatever arrives, whenever it
    arrives - a session may be idle or slow for any length of time: C12's per-connection FIFO /
    exactly-once theorems and C11's segmentation independence both quantify over timing (a schedule, a
    segmentation, carries no clock). A deadline that is armed and not cleared (say, around the TLS
    handshake, or per message body) cuts a healthy session after that much wall-clock time and loses what
    the exporter sends afterwards. A change that arms a deadline is reported as `no-failing-input-found`
    by this tie unless the dynamic side finds an input: harness-mux's `<n>w<ms>` clients (a session that
    stays idle for 6 s / 11 s between two of its messages, over TCP and TLS) are there to find one. -/
theorem tie_collector_arms_no_deadline : Generated.LocksCollector.deadlineCalls = [] := by decide

/-! ## Non-vacuity -/

/-- two connections, a fair schedule: everything is delivered, per-connection order kept, the map is empty, stopped -/
example : let s := run false (init [(1, [0, 1, 2]), (2, [0, 1])]) (roundRobin [1, 2] 3)
    s.delivered = [(1, 0), (2, 0), (1, 1), (2, 1), (1, 2)] ∧ s.live = [] ∧ s.stopped = true ∧ quiescent s = true ∧
    s.accepted = s.delivered ∧ s.done = [2, 1] := by decide +kernel
/-- a reader blocked on the channel keeps Stop() from returning; once the consumer takes the message it returns -/
example : (run false (init [(1, [7])]) [.accept 1, .read 1, .stop]).stopped = false ∧
    (run false (init [(1, [7])]) [.accept 1, .read 1, .stop, .push 1, .stop]).stopped = true ∧
    (run false (init [(1, [7])]) [.accept 1, .read 1, .stop, .push 1, .stop, .read 1, .push 1]).delivered = [(1, 7)] := by decide +kernel
/-- abrupt close: the unread rest is never delivered, the connection leaves the map -/
example : let s := run false (init [(1, [0, 1, 2])]) [.accept 1, .read 1, .push 1, .close 1, .read 1, .push 1]
    s.delivered = [(1, 0)] ∧ s.live = [] ∧ getL s.pending 1 = [1, 2] := by decide +kernel
/-- a handler cannot finish while its reader holds a message -/
example : (run false (init [(1, [0])]) [.accept 1, .read 1, .close 1]).live = [1] := by decide +kernel
/-- UDP drop: a sub-sequence; over TCP the same choice is a no-op -/
example : (run true (init [(1, [0, 1, 2])]) [.accept 1, .read 1, .push 1, .drop 1, .read 1, .push 1]).delivered = [(1, 0), (1, 2)] ∧
    (run false (init [(1, [0, 1, 2])]) [.accept 1, .read 1, .push 1, .drop 1, .read 1, .push 1]).delivered = [(1, 0), (1, 1)] := by decide +kernel
/-- the predicates do reject: a swap, a duplicate, a loss, an invented message -/
example : fifoWhyOn .exact [(1, [0, 1, 2])] [(1, 0), (1, 2), (1, 1)] = some "out-of-order" ∧
    fifoWhyOn .subseq [(1, [0, 1, 2])] [(1, 0), (1, 0)] = some "duplicate-delivery" ∧
    fifoWhyOn .exact [(1, [0, 1, 2])] [(1, 0), (1, 1)] = some "message-lost" ∧
    fifoWhyOn .pref [(1, [0, 1, 2])] [(1, 0), (1, 2)] = some "message-lost" ∧
    fifoWhyOn .subseq [(1, [0, 1, 2])] [(1, 0), (1, 2)] = none ∧
    fifoWhyOn .exact [(1, [0, 1, 2])] [(1, 0), (2, 0)] = some "invented-message" ∧
    fifoWhyOn .exact [(1, [0, 1]), (2, [0])] [(2, 0), (1, 0), (1, 1)] = none := by decide +kernel
/-- the bundle is satisfiable, and six of its nine runtime clauses are shown to bite (not `payload-mismatch`,
    `conn-count-after-stop`, `goroutine-at-stop-return`) -/
def okObs : Obs := { order := [(1, 0), (2, 0), (1, 1)], badPayload := 0, nconn := 1, nconnStop := 0, stopMs := 3, afterStop := 0,
                     g0 := 4, g1 := 4, grem := 0, rebind := true, ownSock := false, race := false }
def okScenario : Scenario := { transport := .tcp, seed := 1, stopMid := none, clients := [⟨2, .close⟩, ⟨1, .idle⟩] }
example : holdsOn okScenario okObs = .holds ∧
    holdsOn okScenario { okObs with nconn := 2 } = .fails "conn-count" ∧
    holdsOn okScenario { okObs with stopMs := 2001 } = .fails "stop-latency" ∧
    holdsOn okScenario { okObs with g1 := 5 } = .fails "goroutine-leak" ∧
    holdsOn okScenario { okObs with rebind := false, ownSock := true } = .fails "socket-remains" ∧
    holdsOn okScenario { okObs with race := true } = .fails "race" ∧
    holdsOn okScenario { okObs with afterStop := 1 } = .fails "delivered-after-stop" := by decide +kernel
/-- the lock table is not empty: every shared field is accessed from some goroutine, `clients` is written
    from at least two different goroutine roots, and some access is made under a lock that every caller holds
    (the `entryHeld` half of `effHeld`) -/
example : sharedFields.all (fun f => accesses.any (fun a => a.field == f && fromRoot a)) = true ∧
    2 ≤ ((accesses.filter (fun a => a.field == "clients" && a.write)).map (·.roots)).eraseDups.length ∧
    accesses.any (fun a => a.entryHeld == 2) = true := by decide +kernel

end Ipfix.C12
