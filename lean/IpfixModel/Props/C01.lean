/-
  C01 - End-to-end fidelity: what an exporter is given is what a collector delivers.
  Composition of the exporter-side encoders (C02, C15) with the collector model (C03).
  Transports are modelled as the identity on messages (TCP framing: C11; UDP: one datagram per
  message; TLS/DTLS: the same channels once established - trusted, observed by the e2e engine).
-/
import IpfixModel.Lemmas.Wire
import IpfixModel.Lemmas.Specifier
import IpfixModel.Lemmas.Unknown
import IpfixModel.Lemmas.TemplateStore
import IpfixModel.Lemmas.Registry
import IpfixModel.Props.C08
namespace Ipfix.C01
open Outcome

/-- the template message CreateIPFIXMsg lays out for one template record -/
def templateWire (dom seq time tid : Nat) (ies : List IE) : Bytes :=
  msgHeader (16 + (4 + (templateRecordBytes tid ies).length)) time seq dom ++
    (be 2 Generated.cTemplateSetID ++ (be 2 (4 + (templateRecordBytes tid ies).length) ++ templateRecordBytes tid ies))

/-- the data message for records whose buffers are `bodies` -/
def dataWire (dom seq time tid : Nat) (bodies : List Bytes) : Bytes :=
  msgHeader (16 + (4 + bodies.flatten.length)) time seq dom ++
    (be 2 tid ++ (be 2 (4 + bodies.flatten.length) ++ bodies.flatten))

/-- the regenerated registry returns every element under its own (enterprise, id): an element of the
    registry is `Registered` as soon as its type is supported and it fits a field specifier -/
theorem tie_lookup_self : ∀ ie ∈ registry, lookupIE ie.ent ie.id = some ie := registry_lookup_self

/-- C01, templates: the collector delivers the template with the same observation domain, template
    id and the same fields - id, enterprise number, data type, length and name, in order - and
    stores it for (domain, id). -/
theorem e2e_template (lookup : Nat → Nat → Option IE) (mode : Mode) (c : CState) (dom seq time tid : Nat)
    (ies : List IE) (hreg : ∀ ie ∈ ies, Registered lookup ie)
    (hd : dom < 4294967296) (hs : seq < 4294967296) (ht : time < 4294967296) (htid : tid < 65536)
    (hfit : 16 + (4 + (templateRecordBytes tid ies).length) ≤ 65535) :
    decodePacket lookup mode c (templateWire dom seq time tid ies) =
      (c.insert (dom, tid) ies,
       .ok { hdr := { version := 10, length := 16 + (4 + (templateRecordBytes tid ies).length), exportTime := time, seq := seq,
                      dom := dom, setID := 2, setLen := 4 + (templateRecordBytes tid ies).length },
             body := .template tid ies }) := by
  have hn : ies.length < 65536 := by
    have := templateRecordBytes_length tid ies
    omega
  have hspecs := decodeSpecifiers_fieldSpecs lookup mode ies hreg []
  rw [List.append_nil] at hspecs
  rw [templateWire, decodePacket_of_header (parseHeader_wire (by omega) ht hs hd (by decide) (by omega)) rfl,
    if_pos rfl, decodeTemplateSet_record htid hn, hspecs, cTemplateSetID_eq]
  rfl

/-- with every template element named (as every registry element that an accepted template can hold
    is: C17 `tie_no_empty_names`) the decoding mode does not matter for data -/
theorem decodeRecord_named (mode : Mode) (tpl : Template) (b : Bytes) (hn : ∀ ie ∈ tpl, ie.name ≠ "") :
    decodeRecord mode tpl b = decodeRecord .keep tpl b := by
  rw [decodeRecord_mode]
  refine bind_eq_self fun (vs, r) h => ?_
  simp only [filterKnown_named hn (decodeRecord_length h), ite_self]

theorem decodeRecordsFuel_named (mode : Mode) (tpl : Template) (hn : ∀ ie ∈ tpl, ie.name ≠ "") (fuel : Nat) (b : Bytes) :
    decodeRecordsFuel mode tpl fuel b = decodeRecordsFuel .keep tpl fuel b :=
  decodeRecordsFuel_congr (fun b => decodeRecord_named mode tpl b hn) fuel b

/-- C01, data: with the template in force, the collector delivers the same observation domain, the
    same number of records and every field value bit-identical (IP addresses in their canonical
    4- / 16-byte form), for any record count and any well-typed values - in every decoding mode. -/
theorem e2e_data (lookup : Nat → Nat → Option IE) (mode : Mode) (c : CState) (dom seq time tid : Nat)
    (ies : List IE) (recs : List (List Elem)) (bodies : List Bytes)
    (hc : c.lookup (dom, tid) = some ies) (hmin : 0 < minRecordLen ies) (hwf : ∀ ie ∈ ies, ie.WF)
    (hnamed : ∀ ie ∈ ies, ie.name ≠ "")
    (hshape : ∀ r ∈ recs, r.map (·.1) = ies) (henc : recs.map encodeRecord = bodies.map some)
    (hd : dom < 4294967296) (hs : seq < 4294967296) (ht : time < 4294967296) (htid : tid < 65536) (hdata : tid ≠ 2)
    (hfit : 16 + (4 + bodies.flatten.length) ≤ 65535) :
    decodePacket lookup mode c (dataWire dom seq time tid bodies) =
      (c, .ok { hdr := { version := 10, length := 16 + (4 + bodies.flatten.length), exportTime := time, seq := seq,
                         dom := dom, setID := tid, setLen := 4 + bodies.flatten.length },
                body := .data tid (recs.map fun r => r.map fun e => C15.canon e.1 e.2) }) := by
  rw [dataWire, decodePacket_of_header (parseHeader_wire (by omega) ht hs hd htid (by omega)) rfl,
    if_neg (cTemplateSetID_eq ▸ hdata), decodeDataSet_some hc]
  simp only [decodeRecords_congr (fun b => decodeRecord_named mode ies b hnamed),
    decodeRecords_encode ies hmin hwf recs bodies hshape henc]
  rfl

/-- the exporter side: what SendSet writes (C08 `send_ok`: CreateIPFIXMsg of the set after
    UpdateLenInHeader) for a set prepared with id `sid` IS the wire layout `dataWire` of its record
    buffers - for a template set (`sid = 2`, one record) that is `templateWire` - so `e2e_template`
    and `e2e_data` apply to the bytes the exporter model emits -/
theorem exporter_emits_wire (s : SetB) (hi : C16.Inv s) (sid dom seq time : Nat) (w : Bytes)
    (hsid : s.header.take 2 = be 2 sid) (hw : createMsg s.updateLen dom seq time = some w) :
    w = dataWire dom seq time sid (s.recs.map (·.bytes)) := by
  obtain ⟨_, rfl⟩ := createMsg_eq_some.mp hw
  simp only [dataWire, SetB.serialize, SetB.updateLen, hsid, hi.length_eq, List.append_assoc]

/-! ## The whole chain in one statement -/

/-- what `SetDesc.build` (PrepareSet(Data, setId) then AddRecordV2 per record) produces -/
theorem build_data_facts (recs : List (Nat × List Elem)) (s0 s : SetB) (hty : s0.ty = .data) (hi : C16.Inv s0)
    (h : recs.foldl (fun acc r => acc.bind fun s => s.addRecordV2 r.2 r.1) (some s0) = some s) :
    s.ty = .data ∧ C16.Inv s ∧ s.header = s0.header ∧
    (s.recs.map (·.bytes)).map some = (s0.recs.map (·.bytes)).map some ++ recs.map (fun r => encodeRecord r.2) :=
  foldl_addRecordV2_data recs s0 s h hty hi

/-- C01 in one statement, for the models: a data set described by `d` (set id = template id, every
    record of the template's shape with well-typed values), built and handed to the exporter model,
    whose SendSet succeeds with wire bytes `w`; the collector model, holding the template for the
    exporter's observation domain, decodes `w` to a message with that domain, the exporter's new
    sequence number, the same number of records and every value identical (addresses canonical). -/
theorem e2e_send_data (lookup : Nat → Nat → Option IE) (mode : Mode) (st st' : ExpState) (c : CState)
    (d : SetDesc) (s : SetB) (time n : Nat) (w : Bytes) (ies : List IE)
    (hty : d.ty = .data) (hb : d.build true = some s) (hsend : st.sendBuilt time s = (st', .ok n w))
    (hc : c.lookup (st.dom, d.setId) = some ies) (hmin : 0 < minRecordLen ies) (hwf : ∀ ie ∈ ies, ie.WF)
    (hnamed : ∀ ie ∈ ies, ie.name ≠ "") (hshape : ∀ r ∈ d.recs, r.2.map (·.1) = ies)
    (hd : st.dom < 4294967296) (ht : time < 4294967296) (hsid : d.setId < 65536) (hdata : d.setId ≠ 2) :
    ∃ hdr, decodePacket lookup mode c w =
      (c, .ok { hdr := hdr, body := .data d.setId (d.recs.map fun r => r.2.map fun e => C15.canon e.1 e.2) }) ∧
      hdr.dom = st.dom ∧ hdr.seq = st'.seq ∧ hdr.length = w.length ∧ hdr.exportTime = time := by
  obtain ⟨sty, sinv, htake, henc⟩ := SetDesc.build_data hty hb
  obtain ⟨_, _, hseq, hmsg⟩ := C08.send_ok st st' time s n w hsend
  have hw := exporter_emits_wire s sinv d.setId st.dom st'.seq time w htake hmsg
  obtain ⟨hlen, hfit⟩ := C16.createMsg_length s.updateLen sinv.updateLen _ _ _ w hmsg
  rw [show s.updateLen.length = s.length from rfl, sinv.length_eq] at hlen hfit
  have hs' : st'.seq < 4294967296 := by
    rw [hseq, if_pos sty]
    exact Nat.mod_lt _ (by decide)
  have := e2e_data lookup mode c st.dom st'.seq time d.setId ies _ _ hc hmin hwf hnamed (List.forall_mem_map.2 hshape) henc
    hd hs' ht hsid hdata hfit
  rw [← hw, List.map_map] at this
  exact ⟨_, this, rfl, rfl, hlen.symm, rfl⟩

/-! ## Non-vacuity: a concrete template and record, end to end through the two theorems' hypotheses -/
def ies0 : List IE := [⟨"protocolIdentifier", 4, .unsigned8, 0, 1⟩, ⟨"sourcePodName", 101, .string, 56506, 65535⟩]
example : (∀ ie ∈ ies0, Registered lookupIE ie) := by
  intro ie h
  simp [ies0] at h
  rcases h with rfl | rfl
  · exact ⟨lookupIE_protocolIdentifier, by decide, by simp [C02.SpecOK]⟩
  · exact ⟨lookupIE_sourcePodName, by decide, by simp [C02.SpecOK]⟩
example : (decodePacket lookupIE .strict (decodePacket lookupIE .strict {} (templateWire 7 0 0 256 ies0)).1
    (dataWire 7 1 0 256 [[6, 2, 104, 105]])).2 =
    .ok { hdr := { version := 10, length := 24, exportTime := 0, seq := 1, dom := 7, setID := 256, setLen := 8 },
          body := .data 256 [[.num 6, .bytes [104, 105]]] } := by decide +kernel

/-- the hypotheses of `e2e_send_data` are met by a concrete session state: an exporter that has
    registered template 256 = `ies0`, and a one-record data set for it -/
def st0 : ExpState := { seq := 4294967295, dom := 7, templates := [(256, { fieldCount := 2, minLen := 2 })] }
def d0 : SetDesc := { ty := .data, setId := 256, recs := [(256, [(ies0[0]!, .num 6), (ies0[1]!, .bytes [104, 105])])] }
example : (match d0.build true with
    | some s => (match st0.sendBuilt 0 s with | (st', .ok _ _) => st'.seq == 0 | _ => false)
    | none => false) = true ∧
    (∀ r ∈ d0.recs, r.2.map (·.1) = ies0) ∧ 0 < minRecordLen ies0 :=
  ⟨by decide +kernel, by decide +kernel, by decide +kernel⟩

/-! ## Whole sessions -/

/-- one SendSet of the application -/
inductive AppSend where
  | template (tid : Nat) (ies : List IE)            -- a template set with one template record
  | data (tid : Nat) (recs : List (List Elem))      -- a data set for template `tid`
  deriving Repr, DecidableEq

/-- the value a template record carries for an element: its zero value -/
def tplValue (ie : IE) : Value :=
  match zeroValue ie with
  | .ok v => v
  | _ => .num 0

/-- the set as the application builds it: a template set holds one template record (every element
    with its zero value), a data set one data record per entry, all with the set's template id.
    The session theorems build it with the slice-adopting path, `SetDesc.build true` (AddRecordV2);
    `desc_build_paths` shows the copying path (AddRecord) builds the same set. -/
def AppSend.desc : AppSend → SetDesc
  | .template tid ies => { ty := .template, setId := Generated.cTemplateSetID, recs := [(tid, ies.map fun ie => (ie, tplValue ie))] }
  | .data tid recs => { ty := .data, setId := tid, recs := recs.map fun r => (tid, r) }

/-- the templates in force after one more send: a template set (re)defines its id -/
def AppSend.define (known : Nat → Option (List IE)) : AppSend → Nat → Option (List IE)
  | .template t ies => fun x => if x = t then some ies else known x
  | .data _ _ => known

/-- the templates in force after the sends `pre`, starting from `known` -/
def templatesAfter (known : Nat → Option (List IE)) (pre : List AppSend) : Nat → Option (List IE) :=
  pre.foldl AppSend.define known

/-- the fields in force for `tid` after the sends `pre` (the LAST template sent with that id), if any -/
def lastTemplate (tid : Nat) (pre : List AppSend) : Option (List IE) :=
  templatesAfter (fun _ => none) pre tid

theorem lastTemplate_nil (tid : Nat) : lastTemplate tid [] = none := rfl

theorem lastTemplate_template_same (tid : Nat) (pre : List AppSend) (ies : List IE) :
    lastTemplate tid (pre ++ [.template tid ies]) = some ies := by
  simp [lastTemplate, templatesAfter, List.foldl_append, AppSend.define]

theorem lastTemplate_template_other (tid t : Nat) (pre : List AppSend) (ies : List IE) (h : tid ≠ t) :
    lastTemplate tid (pre ++ [.template t ies]) = lastTemplate tid pre := by
  simp [lastTemplate, templatesAfter, List.foldl_append, AppSend.define, h]

theorem lastTemplate_data (tid t : Nat) (pre : List AppSend) (recs : List (List Elem)) :
    lastTemplate tid (pre ++ [.data t recs]) = lastTemplate tid pre := by
  simp [lastTemplate, templatesAfter, List.foldl_append, AppSend.define]

/-- one step of the session: build (AddRecordV2 path), send (exporter model), decode (collector
    model); `none` if the set cannot be built or the send is refused -/
def sessionStep (lookup : Nat → Nat → Option IE) (mode : Mode) (time : Nat) (st : ExpState) (c : CState)
    (a : AppSend) : Option (ExpState × CState × Outcome Msg) :=
  match a.desc.build true with
  | none => none
  | some s =>
    match st.sendBuilt time s with
    | (_, .err) => none
    | (st', .ok _ w) => some (st', (decodePacket lookup mode c w).1, (decodePacket lookup mode c w).2)

/-- the whole session; `none` as soon as one send fails -/
def runSession (lookup : Nat → Nat → Option IE) (mode : Mode) (time : Nat) :
    ExpState → CState → List AppSend → Option (ExpState × CState × List (Outcome Msg))
  | st, c, [] => some (st, c, [])
  | st, c, a :: rest =>
    match sessionStep lookup mode time st c a with
    | none => none
    | some (st1, c1, o) =>
      match runSession lookup mode time st1 c1 rest with
      | none => none
      | some (st', c', os) => some (st', c', o :: os)

/-- what the collector must deliver for one send -/
def expectedBody : AppSend → Decoded
  | .template tid ies => .template tid ies
  | .data tid recs => .data tid (recs.map fun r => r.map fun e => C15.canon e.1 e.2)

/-- the exporter's message counter after the sends `pre`: data records count, templates do not -/
def seqAfter (seq : Nat) : List AppSend → Nat
  | [] => seq
  | .template _ _ :: rest => seqAfter seq rest
  | .data _ recs :: rest => seqAfter ((seq + recs.length) % 4294967296) rest

/-- the template analogue of `e2e_send_data`: a template set built from `.template tid ies` and sent
    successfully is decoded to the same template, which replaces the collector's entry for
    (domain, id); the counter does not move -/
theorem e2e_send_template (lookup : Nat → Nat → Option IE) (mode : Mode) (st st' : ExpState) (c : CState)
    (tid : Nat) (ies : List IE) (s : SetB) (time n : Nat) (w : Bytes)
    (hb : (AppSend.template tid ies).desc.build true = some s) (hsend : st.sendBuilt time s = (st', .ok n w))
    (hreg : ∀ ie ∈ ies, Registered lookup ie)
    (hd : st.dom < 4294967296) (hs : st.seq < 4294967296) (ht : time < 4294967296) (htid : tid < 65536) :
    ∃ hdr, decodePacket lookup mode c w =
      (c.insert (st.dom, tid) ies, .ok { hdr := hdr, body := .template tid ies }) ∧
      hdr.dom = st.dom ∧ hdr.seq = st.seq ∧ st'.seq = st.seq ∧ st'.dom = st.dom ∧ hdr.length = w.length ∧
      hdr.exportTime = time := by
  obtain ⟨sty, sinv, htake, hrecs⟩ := SetDesc.build_template hb
  rw [List.map_map, show ((·.1) ∘ fun ie => (ie, tplValue ie)) = id from rfl, List.map_id] at hrecs
  obtain ⟨_, hdom, hseq, hmsg⟩ := C08.send_ok st st' time s n w hsend
  rw [if_neg (by rw [sty]; exact nofun)] at hseq
  have hw := exporter_emits_wire s sinv Generated.cTemplateSetID st.dom st'.seq time w htake hmsg
  obtain ⟨hlen, hfit⟩ := C16.createMsg_length s.updateLen sinv.updateLen _ _ _ w hmsg
  rw [show s.updateLen.length = s.length from rfl, sinv.length_eq] at hlen hfit
  rw [hrecs, List.flatten_singleton] at hlen hfit
  rw [hrecs, hseq, dataWire, List.flatten_singleton] at hw
  have := e2e_template lookup mode c st.dom st.seq time tid ies hreg hd hs ht htid hfit
  rw [templateWire, ← hw] at this
  exact ⟨_, this, rfl, rfl, hseq, hdom, hlen.symm, rfl⟩

/-- the data set an application builds from `.data tid recs` has one record per entry -/
theorem build_data_count (d : SetDesc) (s : SetB) (hty : d.ty = .data) (hb : d.build true = some s) :
    s.ty = .data ∧ s.recs.length = d.recs.length := by
  obtain ⟨sty, _, _, henc⟩ := SetDesc.build_data hty hb
  exact ⟨sty, by simpa using (congrArg List.length henc).symm⟩

/-- what the session theorem asks of a template that is sent: the collector finds every element in its
    registry exactly as described, elements well-formed and named, a record has at least one byte,
    the id is a template id -/
def TemplateOK (lookup : Nat → Nat → Option IE) (tid : Nat) (ies : List IE) : Prop :=
  (∀ ie ∈ ies, Registered lookup ie ∧ ie.WF ∧ ie.name ≠ "") ∧ 0 < minRecordLen ies ∧ 256 ≤ tid ∧ tid < 65536

theorem seqAfter_cons (seq : Nat) (a : AppSend) (l : List AppSend) :
    seqAfter seq (a :: l) = seqAfter (seqAfter seq [a]) l := by
  cases a <;> rfl

theorem seqAfter_lt (seq : Nat) (l : List AppSend) (h : seq < 4294967296) : seqAfter seq l < 4294967296 := by
  induction l generalizing seq with
  | nil => exact h
  | cons a t ih =>
    cases a with
    | template _ _ => exact ih seq h
    | data _ recs => exact ih _ (Nat.mod_lt _ (by decide))

/-- one step of a session: with the collector holding, for the exporter's domain, the templates `known`
    (all of them `TemplateOK`), a send that goes through is delivered as handed over, and afterwards the
    collector holds the templates `a.define known` -/
theorem session_step (lookup : Nat → Nat → Option IE) (mode : Mode) (time : Nat)
    (known : Nat → Option (List IE)) (st st1 : ExpState) (c c1 : CState) (a : AppSend) (o : Outcome Msg)
    (hstep : sessionStep lookup mode time st c a = some (st1, c1, o))
    (hgood : ∀ tid ies, a = .template tid ies → TemplateOK lookup tid ies)
    (hshape : ∀ tid recs, a = .data tid recs → ∃ ies, known tid = some ies ∧ ∀ r ∈ recs, r.map (·.1) = ies)
    (hinv : ∀ tid ies, known tid = some ies → c.lookup (st.dom, tid) = some ies ∧ TemplateOK lookup tid ies)
    (hd : st.dom < 4294967296) (hs : st.seq < 4294967296) (ht : time < 4294967296) :
    st1.dom = st.dom ∧ st1.seq = seqAfter st.seq [a] ∧
    (∀ tid ies, a.define known tid = some ies → c1.lookup (st.dom, tid) = some ies ∧ TemplateOK lookup tid ies) ∧
    ∃ m, o = .ok m ∧ m.body = expectedBody a ∧ m.hdr.dom = st.dom ∧ m.hdr.exportTime = time ∧ m.hdr.seq = st1.seq := by
  -- the step is `some`: the set was built (`hb`) and sent (`hsend`), and `c1`, `o` are what `decodePacket` makes of the
  -- message. By kind of send, `e2e_send_template` / `e2e_send_data` say what that is; a template set replaces the
  -- collector's entry for its id (`CState.lookup_insert`), a data set leaves the store alone.
  unfold sessionStep at hstep
  split at hstep
  next => cases hstep
  next s hb =>
    split at hstep
    next => cases hstep
    next st' n w hsend =>
      cases hstep
      cases a with
      | template tid ies =>
        have hok := hgood tid ies rfl
        have ⟨hel, _, _, hhi⟩ := hok
        obtain ⟨hdr, hdec, mdom, mseq, sseq, sdom, _, mtime⟩ :=
          e2e_send_template lookup mode st st1 c tid ies s time n w hb hsend (fun ie h => (hel ie h).1) hd hs ht hhi
        rw [hdec]
        refine ⟨sdom, sseq, ?_, _, rfl, rfl, mdom, mtime, by rw [mseq, sseq]⟩
        intro t x hx
        simp only [AppSend.define] at hx
        rw [CState.lookup_insert]
        by_cases htt : t = tid
        · rw [if_pos htt] at hx
          cases hx
          subst htt
          exact ⟨if_pos rfl, hok⟩
        · rw [if_neg htt] at hx
          rw [if_neg fun h => htt (Prod.mk.inj h).2.symm]
          exact hinv t x hx
      | data tid recs =>
        obtain ⟨ies, hk, hsh⟩ := hshape tid recs rfl
        obtain ⟨hc, hel, hmin, hlo, hhi⟩ := hinv tid ies hk
        obtain ⟨sty, scount⟩ := build_data_count _ s rfl hb
        obtain ⟨_, hdom, hseq, _⟩ := C08.send_ok st st1 time s n w hsend
        obtain ⟨hdr, hdec, mdom, mseq, _, mtime⟩ :=
          e2e_send_data lookup mode st st1 c (AppSend.data tid recs).desc s time n w ies
            rfl hb hsend hc hmin (fun ie h => (hel ie h).2.1) (fun ie h => (hel ie h).2.2)
            (List.forall_mem_map.2 hsh)
            hd ht hhi (Nat.ne_of_gt (Nat.lt_of_lt_of_le (by decide) hlo))
        rw [hdec]
        refine ⟨hdom, ?_, hinv, _, rfl, ?_, mdom, mtime, mseq⟩
        · rw [hseq, if_pos sty, scount]
          simp [seqAfter, AppSend.desc]
        · simp [expectedBody, AppSend.desc, List.map_map, Function.comp_def]

/-- the session theorem, started in the middle of a session: the collector already holds the templates
    `known` for the exporter's domain -/
theorem session_gen (lookup : Nat → Nat → Option IE) (mode : Mode) (time : Nat) (sends : List AppSend) :
    ∀ (known : Nat → Option (List IE)) (st st' : ExpState) (c c' : CState) (outs : List (Outcome Msg)),
    runSession lookup mode time st c sends = some (st', c', outs) →
    (∀ tid ies, AppSend.template tid ies ∈ sends → TemplateOK lookup tid ies) →
    (∀ pre tid recs post, sends = pre ++ AppSend.data tid recs :: post →
        ∃ ies, templatesAfter known pre tid = some ies ∧ ∀ r ∈ recs, r.map (·.1) = ies) →
    (∀ tid ies, known tid = some ies → c.lookup (st.dom, tid) = some ies ∧ TemplateOK lookup tid ies) →
    st.dom < 4294967296 → st.seq < 4294967296 → time < 4294967296 →
    outs.length = sends.length ∧ st'.dom = st.dom ∧ st'.seq = seqAfter st.seq sends ∧
    (∀ tid ies, templatesAfter known sends tid = some ies → c'.lookup (st.dom, tid) = some ies) ∧
    ∀ i (hi : i < sends.length), ∃ m, outs[i]? = some (.ok m) ∧ m.body = expectedBody sends[i] ∧
      m.hdr.dom = st.dom ∧ m.hdr.exportTime = time ∧ m.hdr.seq = seqAfter st.seq (sends.take (i + 1)) := by
  -- induction on the sends, the templates in force `known` and both states general: `session_step` for the first
  -- send, then the induction hypothesis from the states it leaves, with `a.define known` in force;
  -- `seqAfter_cons` joins the counter of the first send to that of the rest
  induction sends with
  | nil =>
    intro known st st' c c' outs hrun _ _ hinv _ _ _
    cases hrun
    exact ⟨rfl, rfl, rfl, fun tid ies h => (hinv tid ies h).1, fun i hi => absurd hi (Nat.not_lt_zero i)⟩
  | cons a rest ih =>
    intro known st st' c c' outs hrun htpl hdata hinv hd hs ht
    unfold runSession at hrun
    split at hrun
    next => cases hrun
    next st1 c1 o hstep =>
      split at hrun
      next => cases hrun
      next st2 c2 os hrest =>
        cases hrun
        obtain ⟨sdom, sseq, sinv, m, hm, mbody, mdom, mtime, mseq⟩ :=
          session_step lookup mode time known st st1 c c1 a o hstep
            (fun tid ies h => htpl tid ies (by rw [h]; exact List.mem_cons_self))
            (fun tid recs h => hdata [] tid recs rest (by rw [h]; rfl))
            hinv hd hs ht
        have ih := ih (a.define known) st1 st' c1 c' os hrest
          (fun tid ies h => htpl tid ies (List.mem_cons_of_mem _ h))
          (fun pre tid recs post h => hdata (a :: pre) tid recs post (by rw [h]; rfl))
        rw [sdom, sseq] at ih
        obtain ⟨ilen, idom, iseq, ic, iall⟩ := ih sinv hd (seqAfter_lt _ _ hs) ht
        refine ⟨by rw [List.length_cons, ilen, List.length_cons], idom, by rw [iseq, ← seqAfter_cons], ic, ?_⟩
        intro i hi
        cases i with
        | zero => exact ⟨m, by rw [hm]; rfl, mbody, mdom, mtime, by rw [mseq, sseq]; rfl⟩
        | succ j =>
          obtain ⟨m', g1, g2, g3, g4, g5⟩ := iall j (Nat.lt_of_succ_lt_succ hi)
          exact ⟨m', g1, g2, g3, g4, by rw [g5, List.take_succ_cons, ← seqAfter_cons]⟩

/-- C01 for whole sessions: for ANY sequence of template and data sets that an application hands to the
    exporter model and that are all sent successfully (`runSession` is `some`), the collector model - fed
    the exporter's wire messages in order, starting from ANY collector state `c` - delivers for the i-th
    message exactly what was handed over: a template message with the same id and fields, or a data message
    with the same number of records and every value identical (addresses canonical), decoded with the
    template most recently sent for that id in THIS session; every message carries the exporter's domain,
    the export time and the exporter's counter after that send. Afterwards the collector holds, for the
    exporter's domain, the last template of every id sent. -/
theorem e2e_session (lookup : Nat → Nat → Option IE) (mode : Mode) (time : Nat) (st st' : ExpState) (c c' : CState)
    (sends : List AppSend) (outs : List (Outcome Msg))
    (hrun : runSession lookup mode time st c sends = some (st', c', outs))
    -- every template sent: elements the collector finds in its registry exactly as described, well-formed, named, id bounds
    (htpl : ∀ tid ies, AppSend.template tid ies ∈ sends →
        (∀ ie ∈ ies, Registered lookup ie ∧ ie.WF ∧ ie.name ≠ "") ∧ 0 < minRecordLen ies ∧ 256 ≤ tid ∧ tid < 65536)
    -- every data set sent: its records have the shape of the template most recently sent for its id in THIS session
    (hdata : ∀ pre tid recs post, sends = pre ++ AppSend.data tid recs :: post →
        ∃ ies, lastTemplate tid pre = some ies ∧ ∀ r ∈ recs, r.map (·.1) = ies)
    (hdom : st.dom < 4294967296) (hseq : st.seq < 4294967296) (htime : time < 4294967296) :
    outs.length = sends.length ∧
    (∀ i (hi : i < sends.length), ∃ m, outs[i]? = some (.ok m) ∧ m.body = expectedBody sends[i] ∧
      m.hdr.dom = st.dom ∧ m.hdr.exportTime = time ∧ m.hdr.seq = seqAfter st.seq (sends.take (i + 1))) ∧
    st'.dom = st.dom ∧ st'.seq = seqAfter st.seq sends ∧
    (∀ tid ies, lastTemplate tid sends = some ies → c'.lookup (st.dom, tid) = some ies) := by
  -- `htpl` is `TemplateOK` written out, `lastTemplate` is `templatesAfter` from no template at all
  obtain ⟨h1, h2, h3, h4, h5⟩ := session_gen lookup mode time sends (fun _ => none) st st' c c' outs hrun htpl hdata
    (by intro tid ies h; cases h) hdom hseq htime
  exact ⟨h1, h5, h2, h3, h4⟩

/-! ### The two add paths build the same sets -/

theorem tplValue_empty (ie : IE) : elemEmpty (ie, tplValue ie) = true := by
  obtain ⟨n, i, ty, e, l⟩ := ie
  cases ty <;> rfl

theorem fold_paths_data (recs : List (Nat × List Elem)) (s0 : Option SetB) (h : ∀ s, s0 = some s → s.ty = .data) :
    recs.foldl (fun acc r => acc.bind fun s => s.addRecord r.2 r.1) s0 =
    recs.foldl (fun acc r => acc.bind fun s => s.addRecordV2 r.2 r.1) s0 := by
  induction recs generalizing s0 with
  | nil => rfl
  | cons r t ih =>
    simp only [List.foldl_cons]
    cases s0 with
    | none => exact ih none (by intro s hs; cases hs)
    | some s =>
      have hty := h s rfl
      simp only [Option.bind_some, C16.add_paths_equiv_data s r.2 r.1 hty]
      apply ih
      intro s1 hs1
      rw [SetB.addRecordV2_data hty] at hs1
      obtain ⟨bs, _, rfl⟩ := Option.map_eq_some_iff.mp hs1
      exact hty

/-- the sets of a session may as well be built with the copying path (AddRecord /
    AddRecordWithExtraElements): it builds the same set, or fails on the same set, as AddRecordV2 -/
theorem desc_build_paths (a : AppSend) : a.desc.build false = a.desc.build true := by
  cases a with
  | template tid ies =>
    simp only [AppSend.desc, SetDesc.build, SetB.new_prepare_template, List.foldl_cons, List.foldl_nil, Option.bind_some,
      Bool.false_eq_true, if_false, if_true]
    refine C16.add_paths_equiv_template _ _ tid rfl fun e he => ?_
    obtain ⟨ie, _, rfl⟩ := List.mem_map.1 he
    exact tplValue_empty ie
  | data tid recs =>
    simp only [AppSend.desc, SetDesc.build, SetB.new_prepare_data, Bool.false_eq_true, if_false, if_true]
    exact fold_paths_data _ _ (by intro s hs; cases hs; rfl)

/-! ### Non-vacuity: a session with a re-definition, started from a collector that holds a stale template -/

/-- template 256 = `ies0`, one record; 256 re-defined with the fields swapped, two records -/
def session0 : List AppSend :=
  [.template 256 ies0,
   .data 256 [[(ies0[0]!, .num 6), (ies0[1]!, .bytes [104, 105])]],
   .template 256 ies0.reverse,
   .data 256 [[(ies0[1]!, .bytes [104, 105]), (ies0[0]!, .num 6)], [(ies0[1]!, .bytes []), (ies0[0]!, .num 17)]]]

/-- a collector that still holds another template for (7, 256) -/
def cstale : CState := { templates := [((7, 256), [ies0[0]!])] }

example : (match runSession lookupIE .strict 0 { dom := 7 } cstale session0 with
    | some (st', c', outs) =>
      st'.seq == 3 && c'.lookup (7, 256) == some ies0.reverse &&
      outs.map (fun o => match o with | .ok m => some (m.hdr.dom, m.hdr.seq, m.body) | _ => none) ==
        [some (7, 0, .template 256 ies0),
         some (7, 1, .data 256 [[.num 6, .bytes [104, 105]]]),
         some (7, 1, .template 256 ies0.reverse),
         some (7, 3, .data 256 [[.bytes [104, 105], .num 6], [.bytes [], .num 17]])]
    | none => false) = true := by decide +kernel

/-- ... and it meets the hypotheses of `e2e_session` -/
example : (∀ tid ies, AppSend.template tid ies ∈ session0 →
      (∀ ie ∈ ies, Registered lookupIE ie ∧ ie.WF ∧ ie.name ≠ "") ∧ 0 < minRecordLen ies ∧ 256 ≤ tid ∧ tid < 65536) ∧
    (∀ pre tid recs post, session0 = pre ++ AppSend.data tid recs :: post →
      ∃ ies, lastTemplate tid pre = some ies ∧ ∀ r ∈ recs, r.map (·.1) = ies) := by
  have hreg : ∀ ie ∈ ies0, Registered lookupIE ie ∧ ie.WF ∧ ie.name ≠ "" := by
    intro ie h
    simp [ies0] at h
    rcases h with rfl | rfl
    · exact ⟨⟨lookupIE_protocolIdentifier, by decide, by simp [C02.SpecOK]⟩, by decide, by decide⟩
    · exact ⟨⟨lookupIE_sourcePodName, by decide, by simp [C02.SpecOK]⟩, by decide, by decide⟩
  constructor
  · intro tid ies h
    simp [session0] at h
    rcases h with ⟨rfl, rfl⟩ | ⟨rfl, rfl⟩
    · exact ⟨hreg, by decide, by omega, by omega⟩
    · exact ⟨fun ie h => hreg ie (by simp [ies0] at h ⊢; exact h.symm), by decide, by omega, by omega⟩
  · intro pre tid recs post h
    -- by the length of `pre`: the data sets of `session0` stand second and fourth
    match pre, h with
    | [], h => cases h
    | [_], h =>
      cases h
      exact ⟨ies0, by decide, by decide⟩
    | [_, _], h => cases h
    | [_, _, _], h =>
      cases h
      exact ⟨ies0.reverse, by decide, by decide⟩
    | [_, _, _, _], h => cases h
    | _ :: _ :: _ :: _ :: _ :: _, h => cases h

/-- outside the theorem (its `hrun` fails): the exporter keeps the FIRST definition of an id for its
    sanity check (`ExpState.register`), so after a re-definition with another field count it refuses the
    data sets of the new shape - such a session is not "sent successfully" -/
example : (runSession lookupIE .strict 0 { dom := 7 } {}
    [.template 256 ies0, .template 256 [ies0[0]!], .data 256 [[(ies0[0]!, .num 17)]]]).isNone = true := by decide +kernel

end Ipfix.C01
