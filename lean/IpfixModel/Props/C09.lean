/-
  C09 - Exporter never emits an invalid, oversized or silently altered message.
-/
import IpfixModel.Props.C08
namespace Ipfix.C09
open ExpSpec

/-- a transmitted message is never longer than 65535 bytes (the exact boundary:
    16 + set length > MaxSocketMsgSize is refused before any write) -/
theorem size_bound (st st' : ExpState) (time : Nat) (s : SetB) (hi : C16.Inv s) (n : Nat) (w : Bytes)
    (h : st.sendBuilt time s = (st', .ok n w)) : w.length ≤ 65535 := by
  obtain ⟨_, _, _, hc⟩ := C08.send_ok st st' time s n w h
  have := C16.createMsg_length s.updateLen hi.updateLen _ _ _ w hc
  omega

/-- the limit does not depend on what was sent before: a set whose message would exceed MaxSocketMsgSize is
    refused by the exporting process in EVERY state - whatever it has sent, however large - and, under every
    outcome the connection could give a Write, nothing reaches the connection -/
theorem oversize_refused_in_every_state (st : ExpState) (time : Nat) (s : SetB)
    (h : Generated.cMsgHeaderLength + s.updateLen.length > Generated.cMaxSocketMsgSize) :
    (st.sendBuilt time s).2 = .err ∧ ∀ w, st.wroteW time s w = [] := by
  have h1 : (st.sendBuilt time s).2 = .err := by
    rw [ExpState.sendBuilt_eq]
    split
    · rfl
    · rw [createMsg_eq_none.2 h]
  exact ⟨h1, ExpState.wroteW_of_err h1⟩

/-- non-vacuity: a template set of reported length 65520 (message 65536 bytes) meets the hypothesis, one of 65519 does not -/
example : Generated.cMsgHeaderLength + ({ length := 65520 } : SetB).updateLen.length > Generated.cMaxSocketMsgSize ∧
    ¬ (Generated.cMsgHeaderLength + ({ length := 65519 } : SetB).updateLen.length > Generated.cMaxSocketMsgSize) := by decide

/-- a refused send transmits nothing (`SendResult.err` carries no bytes: the size and sanity checks
    precede the only `Write`) and leaves the exporter's template table and domain untouched, so
    every later send behaves as if the refused one had not happened - except for the counter,
    see C08 `failed_send_bumps_seq` -/
theorem error_leaves_state (st st' : ExpState) (time : Nat) (s : SetB)
    (h : st.sendBuilt time s = (st', .err)) : st'.templates = st.templates ∧ st'.dom = st.dom := by
  rcases ExpState.sendBuilt_err h with rfl | rfl
  · exact ⟨rfl, rfl⟩
  · exact ⟨st.advance_templates s, st.advance_dom s⟩

/-- a data set is transmitted only if every record names a template the exporter has recorded,
    with that template's field count and at least its minimum length - and (the repair of D12) that
    template's id is the Set ID that goes on the wire -/
theorem data_requires_registered_template (st st' : ExpState) (time : Nat) (s : SetB) (n : Nat) (w : Bytes)
    (hd : s.ty = .data) (h : st.sendBuilt time s = (st', .ok n w)) :
    ∀ r ∈ s.recs, r.tid = s.setId ∧
      ∃ t, st.template r.tid = some t ∧ r.fieldCount = t.fieldCount ∧ t.minLen ≤ r.bytes.length :=
  ExpState.not_refuses_data hd (ExpState.sendBuilt_ok h).1

/-- the exporter records a template only when the template set was actually transmitted
    (the repair of D6): the table changes only on a successful send of a template set -/
theorem registered_only_after_sent (st st' : ExpState) (time : Nat) (s : SetB) (r : SendResult)
    (h : st.sendBuilt time s = (st', r)) (hne : st'.templates ≠ st.templates) :
    s.ty = .template ∧ C08.isOk r = true := by
  cases r with
  | err => exact absurd (error_leaves_state st st' time s h).1 hne
  | ok n w =>
    obtain ⟨_, _, _, rfl⟩ := ExpState.sendBuilt_ok h
    refine ⟨Decidable.by_contra fun ht => hne ?_, rfl⟩
    rw [ExpState.sent, if_neg ht]
    exact st.advance_templates s

/-- a data record that is transmitted carries every value faithfully: it can only have been built
    from encodable values (`encodeRecord = some`), and by C02 `wire_data` + C15 `decode_encode`
    the collector-side reader recovers exactly those values; a value that cannot be encoded for
    its element makes the record unbuildable in the model - i.e. the send must be an error.
    The implementation transmits such records (finding D5); the check reports them. -/
theorem faithful_or_error (es : List Elem) (h : ∃ e ∈ es, encodeElem e.1 e.2 = none) :
    encodeRecord es = none := by
  induction es with
  | nil => obtain ⟨e, he, _⟩ := h; simp at he
  | cons x t ih =>
    obtain ⟨e, he, hn⟩ := h
    simp at he
    rcases he with rfl | he
    · obtain ⟨ie, v⟩ := e
      simp [encodeRecord, hn]
    · obtain ⟨ie, v⟩ := x
      simp only [encodeRecord]
      rw [ih ⟨e, he, hn⟩]
      cases encodeElem ie v <;> rfl

/-! ## D12 (repaired): set id and record template id may not disagree -/

def d12State : ExpState := { templates := [(256, { fieldCount := 1, minLen := 1 })] }
def d12Rec : Rec := { isTemplate := false, tid := 256, fieldCount := 1, elems := [(C08.ieU8, .num 6)], bytes := [6] }
def d12Set : SetB := { header := [1, 45, 0, 0], ty := .data, recs := [d12Rec], length := 5 }

/-- the old failing input: with only template 256 recorded, a data set with set id 301 whose record
    names template 256 used to be sent (the sanity check looked at the record's id, the wire carries
    the set's); it is refused now, and nothing is written -/
theorem d12_refused :
    (d12State.sendBuilt 0 d12Set).2 = .err ∧ d12State.template 301 = none ∧ d12Set.setId = 301 := by decide

/-- ... and in general: the Set ID on the wire of a transmitted data set is the id of a template that
    was recorded (hence, by `data_only_after_template_sent`, sent) - for a non-empty set -/
theorem wire_set_id_is_a_sent_template (st st' : ExpState) (time : Nat) (s : SetB) (n : Nat) (w : Bytes)
    (hd : s.ty = .data) (hne : s.recs ≠ []) (h : st.sendBuilt time s = (st', .ok n w)) :
    ∃ t, st.template s.setId = some t := by
  obtain ⟨r, hr⟩ := List.exists_mem_of_ne_nil _ hne
  obtain ⟨htid, t, ht, _⟩ := data_requires_registered_template st st' time s n w hd h r hr
  exact ⟨t, htid ▸ ht⟩

/-! ## History form: where the exporter's template table comes from -/

theorem register_mem (st : ExpState) (id : Nat) (t : TplInfo) (x : Nat × TplInfo)
    (hx : x ∈ (st.register id t).templates) : x ∈ st.templates ∨ x = (id, t) :=
  ExpState.register_mem hx

theorem foldl_register_mem (l : List Rec) (st : ExpState) (x : Nat × TplInfo)
    (hx : x ∈ (l.foldl (fun acc r => acc.register r.tid
      { fieldCount := r.elems.length, minLen := minDataRecLen (r.elems.map (·.1)) }) st).templates) :
    x ∈ st.templates ∨ ∃ r' ∈ l, r'.tid = x.1 ∧ x.2.fieldCount = r'.elems.length :=
  ExpState.registerAll_mem hx

/-- one SendSet: an entry of the table afterwards was there before, or the call was a successful
    send of a template set one of whose records defines it -/
theorem step_templates (st st' : ExpState) (time : Nat) (s : SetB) (r : SendResult)
    (h : st.sendBuilt time s = (st', r)) (x : Nat × TplInfo) (hx : x ∈ st'.templates) :
    x ∈ st.templates ∨ (s.ty = .template ∧ C08.isOk r = true ∧
      ∃ r' ∈ s.recs, r'.tid = x.1 ∧ x.2.fieldCount = r'.elems.length) := by
  cases r with
  | err => exact .inl ((error_leaves_state st st' time s h).1 ▸ hx)
  | ok n w =>
    obtain ⟨_, _, _, rfl⟩ := ExpState.sendBuilt_ok h
    unfold ExpState.sent at hx
    split at hx
    · rename_i ht
      exact (ExpState.registerAll_mem hx).imp id fun h => ⟨ht, rfl, h⟩
    · exact .inl hx

/-- a refused send does not disturb what follows: the next send from the state it leaves behaves,
    byte for byte, like the same send from a state with the same counter that never saw the refusal -/
theorem refusal_is_transparent (st st' : ExpState) (time : Nat) (s : SetB)
    (h : st.sendBuilt time s = (st', .err)) (time2 : Nat) (s2 : SetB) :
    st'.sendBuilt time2 s2 = ({ st with seq := st'.seq }).sendBuilt time2 s2 := by
  rcases ExpState.sendBuilt_err h with rfl | rfl
  · rfl
  · rfl


/-- "... and later sends still produce well-formed messages": WHATEVER the exporter went through
    before (any mix of successful and refused sends - the statement is about an arbitrary state
    `st`), a send that succeeds writes one message that the independent parser reads as version 10,
    header length = bytes written ≤ 65535, the time handed in, the new counter, the configured
    domain, and exactly one set with the prepared id whose length covers the rest of the message -/
theorem every_sent_message_parses (st st' : ExpState) (time : Nat) (s : SetB) (n : Nat) (w : Bytes) (sid : Nat)
    (hi : C16.Inv s) (hhdr : s.header.take 2 = be 2 sid) (hsid : sid < 65536)
    (hd : st.dom < 4294967296) (hs : st.seq < 4294967296) (ht : time < 4294967296)
    (h : st.sendBuilt time s = (st', .ok n w)) :
    ∃ m, ExpSpec.parseMessage w = some m ∧ m.version = 10 ∧ m.length = w.length ∧ w.length ≤ 65535 ∧ n = w.length ∧
      m.time = time ∧ m.seq = st'.seq ∧ m.dom = st.dom ∧ m.setId = sid ∧ m.setLen = w.length - 16 ∧
      m.body = (s.recs.map (·.bytes)).flatten := by
  obtain ⟨hn, _⟩ := C08.send_ok st st' time s n w h
  obtain ⟨m, h1, h2, h3, h4, h5, h6, h7, h8, h9⟩ :=
    C08.sent_message_parses st st' time s hi n w h sid hhdr hsid hd hs ht
  exact ⟨m, h1, h2, hn ▸ h3, size_bound st st' time s hi n w h, hn, h4, h5, h6, h7, hn ▸ h8, h9⟩

/-! ## Finding D5, exactly: what the code transmits where the specification encoder refuses -/

/-- Finding D5 with the exact model of `dataRecord.GetBuffer()` (`recordBuf`, Model/RecordBuf.lean,
    tied to the code by the differential run `ie recbuf` of C15): a record port 443, an IPv6
    address (2001:db8::1) as value of the IPv4 element `sourceIPv4Address`, port 80. The
    specification encoder refuses it (`encodeRecord = none`, hence `faithful_or_error`: the send
    must be an error). The code logs the element's error, leaves its four bytes ZERO and sends
    the record: the collector reads the address 0.0.0.0, silently altered. -/
theorem d5_exact_witness :
    ∃ es : List Elem, encodeRecord es = none ∧ recordBuf es = [1, 187, 0, 0, 0, 0, 0, 80] :=
  ⟨[(⟨"sourceTransportPort", 7, .unsigned16, 0, 2⟩, .num 443),
    (⟨"sourceIPv4Address", 8, .ipv4Address, 0, 4⟩,
      .bytes [0x20, 0x01, 0x0d, 0xb8, 0, 0, 0, 0, 0, 0, 0, 0, 0, 0, 0, 1]),
    (⟨"destinationTransportPort", 11, .unsigned16, 0, 2⟩, .num 80)], by decide, by decide⟩

/-! ## Write outcomes: the connection may fail a Write or take only part of the message

  `ExpState.sendBuiltW` (Model/Exporter.lean) is SendSet with the outcome of its Write as a parameter;
  with the outcome `ok` it IS `sendBuilt`, so every theorem above speaks about the same function. -/

/-- with a complete Write, `sendBuiltW` is `sendBuilt` -/
theorem sendBuiltW_ok (st : ExpState) (time : Nat) (s : SetB) :
    st.sendBuiltW time s .ok = st.sendBuilt time s := by
  cases hr : st.sendBuilt time s with | mk st' r
  cases r with
  | err => exact ExpState.sendBuiltW_of_err _ hr
  | ok n m => exact ExpState.sendBuiltW_of_ok _ hr

/-- under any outcome SendSet either behaves exactly as with a connection that never fails, or - the
    message was built, the Write was not complete - it is an error that keeps the template table and
    the domain and has advanced the counter of a data set -/
theorem sendBuiltW_cases (st : ExpState) (time : Nat) (s : SetB) (w : WriteOutcome) :
    st.sendBuiltW time s w = st.sendBuilt time s ∨
    (∃ n m, (st.sendBuilt time s).2 = .ok n m ∧ w.complete m.length = false ∧
      (st.sendBuiltW time s w).2 = .err ∧ (st.sendBuiltW time s w).1.templates = st.templates ∧
      (st.sendBuiltW time s w).1.dom = st.dom ∧
      (st.sendBuiltW time s w).1.seq = (if s.ty = .data then (st.seq + s.recs.length) % 4294967296 else st.seq)) := by
  cases hr : st.sendBuilt time s with | mk st' r
  cases r with
  | err => exact .inl (ExpState.sendBuiltW_of_err w hr)
  | ok n m =>
    rw [ExpState.sendBuiltW_of_ok w hr]
    by_cases hc : w.complete m.length = true
    · exact .inl (if_pos hc)
    · rw [if_neg hc]
      exact .inr ⟨n, m, rfl, by simpa using hc, rfl, st.advance_templates s, st.advance_dom s, st.advance_seq s⟩

/-- SendSet reports success under the outcome `w` exactly when it would with a connection that never
    fails AND `w` is a complete write of that message -/
theorem sendBuiltW_ok_iff (st : ExpState) (time : Nat) (s : SetB) (w : WriteOutcome) (n : Nat) (m : Bytes) :
    (st.sendBuiltW time s w).2 = .ok n m ↔ ((st.sendBuilt time s).2 = .ok n m ∧ w.complete m.length = true) := by
  cases hr : st.sendBuilt time s with | mk st' r
  cases r with
  | err =>
    rw [ExpState.sendBuiltW_of_err w hr]
    exact ⟨fun h => (by cases h), fun h => (by cases h.1)⟩
  | ok n' m' =>
    rw [ExpState.sendBuiltW_of_ok w hr]
    by_cases hc : w.complete m'.length = true
    · rw [if_pos hc]
      exact ⟨fun h => ⟨h, by cases h; exact hc⟩, fun h => h.1⟩
    · rw [if_neg hc]
      exact ⟨fun h => (by cases h), fun h => (by cases h.1; exact absurd h.2 hc)⟩

theorem sendBuiltW_state_of_ok (st : ExpState) (time : Nat) (s : SetB) (w : WriteOutcome) (n : Nat) (m : Bytes)
    (h : (st.sendBuiltW time s w).2 = .ok n m) : st.sendBuiltW time s w = st.sendBuilt time s := by
  rcases sendBuiltW_cases st time s w with h1 | ⟨_, _, _, _, herr, _⟩
  · exact h1
  · rw [herr] at h; simp at h


/-- a Write that fails, or that is short, makes SendSet an error that records NOTHING: whatever the
    state, the set (a template set in particular) and the outcome, if the outcome is not a complete
    write of the message SendSet built, the result is an error and the template table and the domain
    are what they were; the counter of a data set has already been advanced (atomic.AddUint32 precedes
    the Write) -/
theorem failed_write_registers_nothing (st : ExpState) (time : Nat) (s : SetB) (w : WriteOutcome)
    (hw : ∀ n m, (st.sendBuilt time s).2 = .ok n m → w.complete m.length = false) :
    (st.sendBuiltW time s w).2 = .err ∧ (st.sendBuiltW time s w).1.templates = st.templates ∧
    (st.sendBuiltW time s w).1.dom = st.dom ∧
    ((∃ n m, (st.sendBuilt time s).2 = .ok n m) →
      (st.sendBuiltW time s w).1.seq = (if s.ty = .data then (st.seq + s.recs.length) % 4294967296 else st.seq)) := by
  cases hr : st.sendBuilt time s with | mk st' r
  cases r with
  | err =>
    obtain ⟨h2, h3⟩ := error_leaves_state st st' time s hr
    rw [ExpState.sendBuiltW_of_err w hr]
    exact ⟨rfl, h2, h3, fun ⟨_, _, h⟩ => (by cases h)⟩
  | ok n m =>
    rw [ExpState.sendBuiltW_of_ok w hr, hw n m (by rw [hr])]
    exact ⟨rfl, st.advance_templates s, st.advance_dom s, fun _ => st.advance_seq s⟩

/-- the two instances: a Write error (ECONNREFUSED of a connected UDP socket, a closed pipe, ...) ... -/
theorem write_error_registers_nothing (st : ExpState) (time : Nat) (s : SetB) :
    (st.sendBuiltW time s .fail).2 = .err ∧ (st.sendBuiltW time s .fail).1.templates = st.templates :=
  let h := failed_write_registers_nothing st time s .fail (fun _ _ _ => rfl)
  ⟨h.1, h.2.1⟩

/-- ... and a Write that took only `k` bytes of a longer message and reported no error -/
theorem short_write_registers_nothing (st : ExpState) (time : Nat) (s : SetB) (k : Nat)
    (hk : ∀ n m, (st.sendBuilt time s).2 = .ok n m → k < m.length) :
    (st.sendBuiltW time s (.short k)).2 = .err ∧ (st.sendBuiltW time s (.short k)).1.templates = st.templates :=
  let h := failed_write_registers_nothing st time s (.short k) (fun n m hm => by
    have := hk n m hm
    simp [WriteOutcome.complete]; omega)
  ⟨h.1, h.2.1⟩

/-- what reaches the connection is a prefix of the message SendSet built: all of it, nothing (failed
    Write, or a send refused before the Write), or the first `k` bytes -/
theorem wroteW_prefix (st : ExpState) (time : Nat) (s : SetB) (w : WriteOutcome) :
    (st.wroteW time s w = [] ∧ (w = .fail ∨ (st.sendBuilt time s).2 = .err)) ∨
    ∃ n m, (st.sendBuilt time s).2 = .ok n m ∧
      ((w = .ok ∧ st.wroteW time s w = m) ∨ ∃ k, w = .short k ∧ st.wroteW time s w = m.take k) := by
  cases hr : (st.sendBuilt time s).2 with
  | err => exact .inl ⟨ExpState.wroteW_of_err hr w, .inr rfl⟩
  | ok n m =>
    obtain ⟨hok, hfail, hshort⟩ := ExpState.wroteW_of_ok hr
    cases w with
    | ok => exact .inr ⟨n, m, rfl, .inl ⟨rfl, hok⟩⟩
    | fail => exact .inl ⟨hfail, .inl rfl⟩
    | short k => exact .inr ⟨n, m, rfl, .inr ⟨k, rfl, hshort k⟩⟩

/-- a send that SendSet refuses on its own (type, sanity, size) writes nothing under any outcome, and
    is the same refusal: the outcome of a Write that is never made does not matter -/
theorem refusal_precedes_write (st : ExpState) (time : Nat) (s : SetB) (w : WriteOutcome)
    (h : (st.sendBuilt time s).2 = .err) :
    st.sendBuiltW time s w = st.sendBuilt time s ∧ st.wroteW time s w = [] := by
  have e : st.sendBuilt time s = (_, .err) := Prod.ext rfl h
  exact ⟨(ExpState.sendBuiltW_of_err w e).trans e.symm, ExpState.wroteW_of_err h w⟩

/-! ### History form with write outcomes -/

/-- a session: every SendSet with its export time and the outcome of its Write -/
def sendAllW : ExpState → List (Nat × SetB × WriteOutcome) → ExpState
  | st, [] => st
  | st, x :: rest => sendAllW (st.sendBuiltW x.1 x.2.1 x.2.2).1 rest

/-- one SendSet under any outcome: an entry of the table afterwards was there before, or the call was
    a send of a template set that reported success - i.e. whose Write was complete - and one of
    whose records defines it -/
theorem stepW_templates (st : ExpState) (time : Nat) (s : SetB) (w : WriteOutcome) (x : Nat × TplInfo)
    (hx : x ∈ (st.sendBuiltW time s w).1.templates) :
    x ∈ st.templates ∨ (s.ty = .template ∧
      (∃ n m, (st.sendBuiltW time s w).2 = .ok n m ∧ w.complete m.length = true) ∧
      ∃ r' ∈ s.recs, r'.tid = x.1 ∧ x.2.fieldCount = r'.elems.length) := by
  cases hr : st.sendBuilt time s with | mk st' r
  cases r with
  | err =>
    rw [ExpState.sendBuiltW_of_err w hr] at hx
    exact .inl ((step_templates st st' time s _ hr x hx).resolve_right fun h => (by cases h.2.1))
  | ok n m =>
    rw [ExpState.sendBuiltW_of_ok w hr] at hx ⊢
    by_cases hc : w.complete m.length = true
    · rw [if_pos hc] at hx ⊢
      exact (step_templates st st' time s _ hr x hx).imp id fun h => ⟨h.1, ⟨n, m, rfl, hc⟩, h.2.2⟩
    · rw [if_neg hc] at hx
      exact .inl hx

theorem sessionW_templates (pre : List (Nat × SetB × WriteOutcome)) (st0 : ExpState) (x : Nat × TplInfo)
    (hx : x ∈ (sendAllW st0 pre).templates) :
    x ∈ st0.templates ∨ ∃ pre1 tt t wt pre2, pre = pre1 ++ (tt, t, wt) :: pre2 ∧ t.ty = .template ∧
      (∃ n m, ((sendAllW st0 pre1).sendBuiltW tt t wt).2 = .ok n m ∧ wt.complete m.length = true) ∧
      ∃ r' ∈ t.recs, r'.tid = x.1 ∧ x.2.fieldCount = r'.elems.length := by
  induction pre generalizing st0 with
  | nil => exact .inl hx
  | cons p rest ih =>
    obtain ⟨tt, s, w⟩ := p
    simp only [sendAllW] at hx
    rcases ih _ hx with h | ⟨pre1, tt', t, wt, pre2, hp, ht, hok, hr⟩
    · rcases stepW_templates st0 tt s w x h with h | ⟨ht, hok, hr⟩
      · exact .inl h
      · exact .inr ⟨[], tt, s, w, rest, rfl, ht, hok, hr⟩
    · exact .inr ⟨(tt, s, w) :: pre1, tt', t, wt, pre2, by rw [hp]; rfl, ht, hok, hr⟩

/-- Provenance with the connection in the picture (`data_only_after_template_sent` below is the case
    of a connection that never fails): in ANY sequence of SendSet
    calls, each with an arbitrary outcome of its Write (complete, failed, short), starting from an empty
    template table, a data set that is transmitted (SendSet reports success) has, for every record, a
    template set EARLIER in the sequence whose Write was COMPLETE - SendSet reported success for it
    under its outcome - containing a template record with that id and exactly that many fields.
    A template whose Write failed (the ECONNREFUSED of seeded change C09-8) does not count. -/
theorem data_only_after_template_WRITTEN (st0 : ExpState) (h0 : st0.templates = [])
    (pre : List (Nat × SetB × WriteOutcome)) (time : Nat) (s : SetB) (w : WriteOutcome)
    (n : Nat) (m : Bytes) (hd : s.ty = .data)
    (h : ((sendAllW st0 pre).sendBuiltW time s w).2 = .ok n m) :
    ∀ r ∈ s.recs, ∃ pre1 tt t wt pre2, pre = pre1 ++ (tt, t, wt) :: pre2 ∧ t.ty = .template ∧
      (∃ n' m', ((sendAllW st0 pre1).sendBuiltW tt t wt).2 = .ok n' m' ∧ wt.complete m'.length = true) ∧
      ∃ r' ∈ t.recs, r'.tid = r.tid ∧ r'.elems.length = r.fieldCount := by
  intro r hr
  have hs := ((sendBuiltW_ok_iff _ time s w n m).1 h).1
  obtain ⟨_, ti, hti, hfc, _⟩ := data_requires_registered_template _ _ time s n m hd (Prod.ext rfl hs) r hr
  rcases sessionW_templates pre st0 _ (ExpState.template_mem hti) with h | ⟨pre1, tt, t, wt, pre2, hp, ht, hok, r', hr', h1, h2⟩
  · rw [h0] at h
    cases h
  · exact ⟨pre1, tt, t, wt, pre2, hp, ht, hok, r', hr', h1, by rw [← h2, hfc]⟩

/-- with every Write complete the session is `C08.sendAll` -/
theorem sendAllW_ok (time : Nat) (st0 : ExpState) (pre : List SetB) :
    sendAllW st0 (pre.map fun s => (time, s, .ok)) = (C08.sendAll time st0 pre).1 := by
  induction pre generalizing st0 with
  | nil => rfl
  | cons s rest ih => simp only [List.map_cons, sendAllW, C08.sendAll, sendBuiltW_ok]; exact ih _

/-- a whole session on a connection that never fails: an entry of the table afterwards was there at
    the start, or some send of the session - a successful send of a template set - put it there.
    The instance "every Write complete" of `sessionW_templates`. -/
theorem session_templates (time : Nat) (pre : List SetB) (st0 : ExpState) (x : Nat × TplInfo)
    (hx : x ∈ (C08.sendAll time st0 pre).1.templates) :
    x ∈ st0.templates ∨ ∃ pre1 t pre2, pre = pre1 ++ t :: pre2 ∧ t.ty = .template ∧
      C08.isOk ((C08.sendAll time st0 pre1).1.sendBuilt time t).2 = true ∧
      ∃ r' ∈ t.recs, r'.tid = x.1 ∧ x.2.fieldCount = r'.elems.length := by
  rw [← sendAllW_ok] at hx
  refine (sessionW_templates _ st0 x hx).imp id ?_
  intro ⟨pre1', tt, t, wt, pre2', hp, ht, ⟨n, m, hok, _⟩, hr⟩
  -- `pre` splits where its image under `(time, ·, .ok)` does
  obtain ⟨pre1, rest, rfl, rfl, hrest⟩ := List.map_eq_append_iff.1 hp
  obtain ⟨t', pre2, rfl, hx, rfl⟩ := List.map_eq_cons_iff.1 hrest
  cases hx
  rw [sendAllW_ok, sendBuiltW_ok] at hok
  exact ⟨pre1, t, pre2, rfl, ht, by rw [hok]; rfl, hr⟩

/-- provenance of the exporter's template table over a whole session that starts with an empty table:
    SendSet transmits a data set only if, for every record of it, a template set containing a
    template record with that id and exactly that many fields was previously SENT (successfully)
    in the same session on the same exporting process -/
theorem data_only_after_template_sent (time : Nat) (st0 : ExpState) (h0 : st0.templates = [])
    (pre : List SetB) (s : SetB) (st' : ExpState) (n : Nat) (w : Bytes) (hd : s.ty = .data)
    (h : (C08.sendAll time st0 pre).1.sendBuilt time s = (st', .ok n w)) :
    ∀ r ∈ s.recs, ∃ pre1 t pre2, pre = pre1 ++ t :: pre2 ∧ t.ty = .template ∧
      C08.isOk ((C08.sendAll time st0 pre1).1.sendBuilt time t).2 = true ∧
      ∃ r' ∈ t.recs, r'.tid = r.tid ∧ r'.elems.length = r.fieldCount := by
  intro r hr
  obtain ⟨_, ti, hti, hfc, _⟩ := data_requires_registered_template _ st' time s n w hd h r hr
  rcases session_templates time pre st0 _ (ExpState.template_mem hti) with h | ⟨pre1, t, pre2, hp, ht, hok, r', hr', h1, h2⟩
  · rw [h0] at h
    cases h
  · exact ⟨pre1, t, pre2, hp, ht, hok, r', hr', h1, by rw [← h2, hfc]⟩

/-! ### Non-vacuity: the session of seeded change C09-8 in the model -/

def wTplRec : Rec := { isTemplate := true, tid := 256, fieldCount := 1, elems := [(C08.ieU8, .num 0)], bytes := [1, 0, 0, 1, 0, 4, 0, 1] }
def wTplSet : SetB := { header := [0, 2, 0, 0], ty := .template, recs := [wTplRec], length := 12 }
def wDataSet : SetB := C08.dataSet 1

/-- a template set whose Write fails, then a data set for it: refused (nothing recorded) ... -/
example : ((sendAllW {} [(0, wTplSet, .fail)]).sendBuiltW 0 wDataSet .ok).2 = .err := by decide
/-- ... also when the Write was short by one byte ... -/
example : ((sendAllW {} [(0, wTplSet, .short 27)]).sendBuiltW 0 wDataSet .ok).2 = .err := by decide
/-- ... and after a re-send whose Write is complete the same data set IS transmitted: the hypotheses of
    `data_only_after_template_WRITTEN` are satisfiable, and its witness is the second send, not the first -/
example : C08.isOk ((sendAllW {} [(0, wTplSet, .fail), (0, wTplSet, .ok)]).sendBuiltW 0 wDataSet .ok).2 = true := by decide
example : C08.isOk (({} : ExpState).sendBuiltW 0 wTplSet .ok).2 = true ∧ (({} : ExpState).sendBuiltW 0 wTplSet .fail).2 = .err ∧
    (({} : ExpState).sendBuiltW 0 wTplSet (.short 28)).2 = (({} : ExpState).sendBuiltW 0 wTplSet .ok).2 := by decide
/-- a data set whose Write fails has advanced the counter all the same -/
example : ((sendAllW {} [(0, wTplSet, .ok)]).sendBuiltW 0 wDataSet .fail) =
    ({ seq := 1, templates := [(256, { fieldCount := 1, minLen := 1 })] }, .err) := by decide

/-! ## JSON mode (ExporterInput.SendJSONRecord) -/

/-- `ExpState.refuses` IS the sanity condition of `sendBuilt`: a set it refuses is an error of the IPFIX
    path in every state, before any message is built, and leaves the state alone -/
theorem refuses_is_ipfix_refusal (st : ExpState) (time : Nat) (s : SetB) (h : st.refuses s = true) :
    st.sendBuilt time s = (st, .err) := by
  rw [ExpState.sendBuilt_eq, if_pos h]

/-- JSON mode refuses what IPFIX mode refuses: a set refused by `sendBuilt`'s sanity condition
    (Undefined type; a data set with a record for another template than the Set ID's, for an unknown
    template, with another field count than the template's, or shorter than its minimum length) is
    refused by `sendBuiltJ` too, for every state - the skipped field-count check of seeded change C09-9
    is not this function -/
theorem json_mode_refuses_like_ipfix (st : ExpState) (time : Nat) (s : SetB) (h : st.refuses s = true) :
    (st.sendBuilt time s).2 = .err ∧ ∃ k, (st.sendBuiltJ s).2 = .err k :=
  ⟨by rw [refuses_is_ipfix_refusal st time s h], 0, by rw [ExpState.sendBuiltJ_of_refuses h]⟩

/-- ... and such a refusal writes nothing (zero calls of Write) and changes nothing -/
theorem json_refusal_writes_nothing (st : ExpState) (s : SetB) (h : st.refuses s = true) :
    st.sendBuiltJ s = (st, .err 0) ∧ st.writesJ s = 0 := by
  have := ExpState.sendBuiltJ_of_refuses h
  exact ⟨this, by rw [ExpState.writesJ, this]⟩

theorem jsonWrites_le (l : List Rec) : jsonWrites l ≤ l.length := by
  induction l with
  | nil => simp [jsonWrites]
  | cons r t ih => simp only [jsonWrites]; split <;> simp <;> omega

/-- conversely: whenever JSON mode calls Write at all (with or without an error afterwards), the set is
    a data set every record of which names the Set ID's template, recorded by the exporter, with that
    template's field count and at least its minimum length - `data_requires_registered_template` for
    the JSON path; and there is at most one Write per record -/
theorem json_writes_only_sane_data (st : ExpState) (s : SetB) (hk : 0 < st.writesJ s) :
    s.ty = .data ∧ st.writesJ s ≤ s.recs.length ∧ ∀ r ∈ s.recs, r.tid = s.setId ∧
      ∃ t, st.template r.tid = some t ∧ r.fieldCount = t.fieldCount ∧ t.minLen ≤ r.bytes.length := by
  cases hty : s.ty with
  | data =>
    have hr : st.refuses s = false := Bool.eq_false_iff.2 fun h => by
      rw [ExpState.writesJ, ExpState.sendBuiltJ_of_refuses h] at hk
      exact Nat.lt_irrefl 0 hk
    refine ⟨rfl, ?_, ExpState.not_refuses_data hty hr⟩
    rw [ExpState.writesJ, ExpState.sendBuiltJ_data hty hr]
    by_cases hj : s.recs.all jsonRecOK = true
    · rw [if_pos hj]
      exact Nat.le_refl _
    · rw [if_neg hj]
      exact jsonWrites_le _
  | _ => simp [ExpState.writesJ, ExpState.sendBuiltJ, hty] at hk

theorem register_seq_dom (st : ExpState) (id : Nat) (t : TplInfo) :
    (st.register id t).seq = st.seq ∧ (st.register id t).dom = st.dom :=
  st.register_seq_dom id t

theorem foldl_register_seq_dom (l : List Rec) (st : ExpState) :
    (l.foldl (fun acc r => acc.register r.tid
      { fieldCount := r.elems.length, minLen := minDataRecLen (r.elems.map (·.1)) }) st).seq = st.seq ∧
    (l.foldl (fun acc r => acc.register r.tid
      { fieldCount := r.elems.length, minLen := minDataRecLen (r.elems.map (·.1)) }) st).dom = st.dom :=
  ExpState.registerAll_seq_dom l st

/-- JSON mode never touches the sequence counter or the domain; the template table changes only by a
    template set (which writes nothing), with entries its records define; a failing first Write
    (`sendBuiltJW`) changes no more than that -/
theorem json_state (st : ExpState) (s : SetB) :
    (st.sendBuiltJ s).1.seq = st.seq ∧ (st.sendBuiltJ s).1.dom = st.dom ∧
    (∀ x ∈ (st.sendBuiltJ s).1.templates, x ∈ st.templates ∨
      (s.ty = .template ∧ (st.sendBuiltJ s).2 = .ok 0 ∧ ∃ r' ∈ s.recs, r'.tid = x.1 ∧ x.2.fieldCount = r'.elems.length)) ∧
    ∀ w, (st.sendBuiltJW s w).1 = (st.sendBuiltJ s).1 := by
  -- a template set is recorded (`registerAll`: counter and domain stay, the new entries come from its records); any
  -- other set leaves the state as it is; the last conjunct holds of every set
  by_cases ht : s.ty = .template
  · refine ⟨?_, ?_, ?_, st.sendBuiltJW_fst s⟩
    all_goals rw [ExpState.sendBuiltJ_template ht]
    · exact (ExpState.registerAll_seq_dom _ _).1
    · exact (ExpState.registerAll_seq_dom _ _).2
    · exact fun x hx => (ExpState.registerAll_mem hx).imp id fun h => ⟨ht, rfl, h⟩
  · have hst : (st.sendBuiltJ s).1 = st := ExpState.sendBuiltJ_fst_of_ne ht
    exact ⟨by rw [hst], by rw [hst], fun x hx => .inl (hst ▸ hx), st.sendBuiltJW_fst s⟩

/-- non-vacuity, and seeded change C09-9 in the model: with template 256 (one field) recorded, a record
    with TWO fields is refused in JSON mode as in IPFIX mode, a record with one field is written -/
def jState : ExpState := { templates := [(256, { fieldCount := 1, minLen := 1 })] }
def jTwoRec : Rec := { isTemplate := false, tid := 256, fieldCount := 2, elems := [(C08.ieU8, .num 6), (C08.ieU8, .num 7)], bytes := [6, 7] }
def jTwoFields : SetB := { header := [1, 0, 0, 0], ty := .data, recs := [jTwoRec], length := 6 }
example : jState.refuses jTwoFields = true ∧ jState.sendBuiltJ jTwoFields = (jState, .err 0) ∧
    (jState.sendBuilt 0 jTwoFields).2 = .err ∧
    jState.refuses (C08.dataSet 3) = false ∧ jState.sendBuiltJ (C08.dataSet 3) = (jState, .ok 3) ∧
    (({} : ExpState).sendBuiltJ wTplSet) = (jState, .ok 0) := by decide

end Ipfix.C09
