/-
  C14 - An exporting process's own background work never corrupts what the application sends.

  PARTIAL: what is proved here is the event-level protocol logic of Model/Lifecycle.lean - for EVERY
  interleaving (`List Event`) of application sends, refresh ticks and refresh sends, connection checks,
  peer close and Close calls. Timing (a refresh EACH interval, detection WITHIN the check interval),
  goroutine termination and freedom from data races are facts of the Go runtime: they are OBSERVED on
  the real code (race detector, real sockets; Spec/C14.lean evaluated on every run), not proved.
  `lockset_exporter` is a proved statement about the lock discipline table re-extracted from the source.
-/
import IpfixModel.Lemmas.Lifecycle
import IpfixModel.Lemmas.LocksExporter
namespace Ipfix.C14
open Life ExpSpec

/-! ## UDP: template refresh -/

/-- one whole refresh (the tick and its sends, nothing in between) on an open UDP process appends
    exactly one message per template recorded so far - in SOME order (Go map iteration; every order the
    priority function can produce) - and the independent RFC 7011 parser reads each one back as exactly
    that template: version 10, length field = size, the current sequence number, the observation
    domain, set id 2, one template record with the recorded id and field specifiers (C02 `wire_header`,
    `wire_template` through the exporter model's ordinary send path). The counter does not move and
    the process stays open. -/
theorem refresh_emits_all_templates (st : LState) (prio : Nat → Nat) (times : List Nat)
    (hudp : st.proto = .udp) (hopen : st.closed = false) (hidle : st.pending = [])
    (hd : st.exp.dom < 4294967296) (hs : st.exp.seq < 4294967296)
    (hr : ∀ p ∈ st.tpls, Refreshable p.1 p.2)
    (hl : times.length = st.tpls.length) (ht : ∀ t ∈ times, t < 4294967296) :
    ∃ order msgs, order.Perm st.tpls ∧
      (refreshAll st prio times).wire = st.wire ++ msgs ∧
      AllTemplateMsgs st.exp.dom st.exp.seq msgs order ∧
      (refreshAll st prio times).exp.seq = st.exp.seq ∧
      (refreshAll st prio times).closed = false ∧ (refreshAll st prio times).pending = [] := by
  have hperm : (refreshOrder prio st.tpls).Perm st.tpls := refreshOrder_perm prio _
  have hr' : ∀ p ∈ refreshOrder prio st.tpls, Refreshable p.1 p.2 := fun p hp => hr p (hperm.mem_iff.mp hp)
  obtain ⟨msgs, h⟩ :=
    refreshSteps_emit _ times { st with pending := (refreshOrder prio st.tpls).map fun p => tplSetOf p.1 p.2 }
      (by rw [hl, hperm.length_eq]) hr' ht hopen rfl hd hs
  refine ⟨_, msgs, hperm, ?_⟩
  rw [refreshAll, runS_cons, step_refreshTick, refreshTick_idle prio hudp hopen hidle, buildAll_refreshable hr']
  exact h

/-- the same, send by send and under ANY interleaving: whenever the refresher gets to run on an open
    process, its next queued template goes out as one message that parses back as that template ... -/
theorem refresh_step_emits_next (st : LState) (time tid : Nat) (ies : List IE) (s : SetB) (rest : List SetB)
    (hopen : st.closed = false) (hp : st.pending = s :: rest) (hs : makeTemplateSet tid ies = some s)
    (hr : Refreshable tid ies)
    (hd : st.exp.dom < 4294967296) (hq : st.exp.seq < 4294967296) (ht : time < 4294967296) :
    ∃ w, (step st (.refreshStep time)).1.wire = st.wire ++ [w] ∧ IsTemplateMsg st.exp.dom st.exp.seq tid ies w ∧
      (step st (.refreshStep time)).1.pending = rest ∧ (step st (.refreshStep time)).1.closed = false := by
  rw [makeTemplateSet_eq, if_pos hr.2.2.2.1] at hs
  cases hs
  obtain ⟨w, q, hmsg, _, _, hstep⟩ := refreshStep_emits st time tid ies rest hopen hp hr hd hq ht
  rw [hstep]
  exact ⟨w, rfl, hmsg, rfl, hopen⟩

/-- ... and an application send in between leaves the refresher's queue alone -/
theorem app_send_keeps_refresh_queue (st : LState) (time : Nat) (s : SetB) :
    (step st (.appSend time s)).1.pending = st.pending :=
  (send_frame st time s).pending

/-- template refreshes never change the sequence counter (`ExpState.sendBuilt_template_seq`: only data sets
    advance it; the refresher only ever queues template sets - `Reach.queue`) -/
theorem refresh_preserves_seq (proto : Proto) (dom : Nat) (evs : List Event) :
    (∀ prio, (step (runS (LState.init proto dom) evs) (.refreshTick prio)).1.exp.seq =
      (runS (LState.init proto dom) evs).exp.seq) ∧
    (∀ time, (step (runS (LState.init proto dom) evs) (.refreshStep time)).1.exp.seq =
      (runS (LState.init proto dom) evs).exp.seq) := by
  have hinv := fun s hs => ((runS_rule step_reach evs _ (reach_init proto dom)).queue s hs).1
  exact ⟨fun prio => step_seq_of_ne_appSend _ _ hinv (fun _ _ => nofun), fun time => step_seq_of_ne_appSend _ _ hinv (fun _ _ => nofun)⟩

/-! ## Messages interleave, never intermix -/

/-- every event leaves the wire alone or appends exactly ONE element, and that element is the complete
    output of one CreateIPFIXMsg: one `Write` of one whole message (over UDP one datagram) -/
theorem one_whole_message_per_write (st : LState) (e : Event) :
    (step st e).1.wire = st.wire ∨ ∃ w, Whole w ∧ (step st e).1.wire = st.wire ++ [w] :=
  step_wire st e

/-- for every interleaving the wire is a list of whole messages; nothing already written is ever altered -/
theorem messages_not_intermixed (proto : Proto) (dom : Nat) (evs more : List Event) :
    (∀ w ∈ (runS (LState.init proto dom) evs).wire, Whole w) ∧
    ∃ tail, (runS (LState.init proto dom) (evs ++ more)).wire = (runS (LState.init proto dom) evs).wire ++ tail := by
  obtain ⟨ws, h1, h2⟩ := run_wire evs (LState.init proto dom)
  obtain ⟨tail, h3, _⟩ := run_wire more (runS (LState.init proto dom) evs)
  refine ⟨fun w hw => h2 w ?_, tail, by rw [runS_append]; exact h3⟩
  rw [h1] at hw
  exact hw

/-! ## Close -/

/-- CloseConnToCollector called twice in a row leaves the state the first call left -/
theorem close_idempotent (st : LState) : (step (step st .close).1 .close).1 = (step st .close).1 :=
  doClose_of_closed (doClose_closed st)

/-- after the first Close, any number of further Close calls, from any goroutine and at any point of any
    schedule, leave the same state as if they had not been made -/
theorem repeated_close_noop (st : LState) (evs : List Event) :
    runS (step st .close).1 evs = runS (step st .close).1 (evs.filter (fun e => !isCloseEv e)) :=
  run_strip_closes evs _ (doClose_closed st)

/-- `close(stopCh)` is executed at most once in every schedule (a second execution panics in Go):
    exactly once if the process ended up closed, never otherwise; and a closed process has no
    background work queued -/
theorem stop_channel_closed_once (proto : Proto) (dom : Nat) (evs : List Event) :
    (runS (LState.init proto dom) evs).stopCloses = (if (runS (LState.init proto dom) evs).closed then 1 else 0) ∧
    ((runS (LState.init proto dom) evs).closed = true → (runS (LState.init proto dom) evs).pending = []) :=
  have h := runS_rule step_reach evs _ (reach_init proto dom)
  ⟨h.stop, h.idle⟩

/-- after close - by anyone - for every further schedule: no byte is written, the process stays closed, and
    every SendSet of the application reports an error -/
theorem no_write_after_close (st : LState) (h : st.closed = true) (evs : List Event) :
    (run st evs).1.wire = st.wire ∧ (run st evs).1.closed = true ∧
    ∀ o ∈ (run st evs).2, o = none ∨ o = some .err :=
  and_assoc.1 (run_rule (P := fun q => q.wire = st.wire ∧ q.closed = true) (G := fun _ => True)
    (fun q e hq _ => by
      obtain ⟨⟨h1, h2⟩, h3⟩ := step_of_closed q e hq.2
      exact ⟨⟨h2.trans hq.1, h1⟩, h3⟩)
    evs st ⟨rfl, h⟩ (fun _ _ => trivial))

/-- the same, stated from the Close call itself: whatever the state, after `close` nothing is written -/
theorem close_stops_all_writes (st : LState) (evs : List Event) :
    (run (step st .close).1 evs).1.wire = st.wire ∧ ∀ o ∈ (run (step st .close).1 evs).2, o = none ∨ o = some .err := by
  obtain ⟨h1, _, h3⟩ := no_write_after_close (step st .close).1 (doClose_closed st) evs
  exact ⟨h1.trans (doClose_frame st).1, h3⟩

/-! ## UDP: a template the refresher cannot rebuild (D17) -/

/-- a template with a dateTimeMicroseconds or dateTimeNanoseconds element - wherever in the template, whatever the
    other elements - cannot be rebuilt: entities.MakeTemplateSet fails on it
    (DecodeAndCreateInfoElementWithValue(ie, nil) has no value for these types) -/
theorem micro_nano_template_unbuildable (tid : Nat) (ies : List IE) (ie : IE) (hm : ie ∈ ies)
    (hty : ie.ty = .dateTimeMicroseconds ∨ ie.ty = .dateTimeNanoseconds) :
    makeTemplateSet tid ies = none :=
  makeTemplateSet_none_of_mem tid ies ie hm (zeroValue_err_of_micro_nano ie hty)

/-- "a refresh that cannot be built closes the process": a refresh tick on an open UDP process that has recorded a
    template for which MakeTemplateSet fails - in whatever order the map iteration visits the templates - closes
    the process (exactly one more close(stopCh)), leaves no refresh work queued and writes NOTHING (not even the
    templates that could have been rebuilt); nothing else of the state changes -/
theorem unbuildable_refresh_closes (st : LState) (prio : Nat → Nat) (tid : Nat) (ies : List IE)
    (hudp : st.proto = .udp) (hopen : st.closed = false) (hidle : st.pending = [])
    (hrec : (tid, ies) ∈ st.tpls) (hfail : makeTemplateSet tid ies = none) :
    (step st (.refreshTick prio)).1.closed = true ∧ (step st (.refreshTick prio)).1.pending = [] ∧
    (step st (.refreshTick prio)).1.wire = st.wire ∧ (step st (.refreshTick prio)).1.stopCloses = st.stopCloses + 1 ∧
    (step st (.refreshTick prio)).1.exp = st.exp ∧ (step st (.refreshTick prio)).1.tpls = st.tpls ∧
    (step st (.refreshTick prio)).2 = none := by
  have hmem : (tid, ies) ∈ refreshOrder prio st.tpls := (refreshOrder_perm prio st.tpls).mem_iff.mpr hrec
  rw [step_refreshTick, refreshTick_idle prio hudp hopen hidle, buildAll_none_of_mem hmem hfail, doClose_of_open hopen]
  exact ⟨rfl, rfl, rfl, rfl, rfl, rfl, rfl⟩

/-- ... and from then on, for EVERY further schedule: every SendSet of the application RETURNS an error (it is a step
    of the event system like any other: it does not wait for anything), nothing is written, the process stays closed -/
theorem after_unbuildable_refresh_sends_fail (st : LState) (prio : Nat → Nat) (tid : Nat) (ies : List IE)
    (hudp : st.proto = .udp) (hopen : st.closed = false) (hidle : st.pending = [])
    (hrec : (tid, ies) ∈ st.tpls) (hfail : makeTemplateSet tid ies = none) (evs : List Event) :
    (run (step st (.refreshTick prio)).1 evs).1.wire = st.wire ∧
    (run (step st (.refreshTick prio)).1 evs).1.closed = true ∧
    (∀ o ∈ (run (step st (.refreshTick prio)).1 evs).2, o = none ∨ o = some .err) ∧
    ∀ time s, (step (runS (step st (.refreshTick prio)).1 evs) (.appSend time s)).2 = some .err ∧
      (step (runS (step st (.refreshTick prio)).1 evs) (.appSend time s)).1.wire = st.wire := by
  obtain ⟨hc, _, hw, _⟩ := unbuildable_refresh_closes st prio tid ies hudp hopen hidle hrec hfail
  obtain ⟨h1, h2, h3⟩ := no_write_after_close _ hc evs
  refine ⟨h1.trans hw, h2, h3, fun time s => ?_⟩
  obtain ⟨g1, g2⟩ := send_err_of_closed (runS (step st (.refreshTick prio)).1 evs) time s h2
  exact ⟨congrArg some g1, g2.trans (h1.trans hw)⟩

/-- how the process gets there: a template set the application sends on an open process is transmitted and RECORDED
    whether or not it can be rebuilt later - sending asks nothing of the element types (template records carry no
    values) - so the precondition of `unbuildable_refresh_closes` is reachable through SendSet alone -/
theorem sent_template_is_recorded (st : LState) (time : Nat) (s : SetB) (n : Nat) (w : Bytes)
    (hty : s.ty = .template) (hok : (step st (.appSend time s)).2 = some (.ok n w)) :
    (step st (.appSend time s)).1.tpls = recordTemplates st.tpls s ∧
    (step st (.appSend time s)).1.wire = st.wire ++ [w] ∧ (step st (.appSend time s)).1.closed = false := by
  rw [step_appSend] at hok ⊢
  rcases send_cases st time s with ⟨q, he, _⟩ | ⟨q, n', w', hc, _, he⟩
  · rw [he] at hok
    cases hok
  · rw [he] at hok ⊢
    cases hok
    exact ⟨if_pos hty, rfl, hc⟩

/-! ## TCP: the collector closes -/

/-- once the collector has closed its side, the first connection check that reads EOF - after whatever
    happened in between - closes the process; from then on every SendSet is an error and nothing is
    written: sends fail instead of vanishing -/
theorem peer_close_detected (st : LState) (mid post : List Event) (htcp : st.proto = .tcp) :
    let st1 := runS st (.peerClose :: mid ++ [.connCheck true])
    st1.closed = true ∧ (run st1 post).1.wire = st1.wire ∧ ∀ o ∈ (run st1 post).2, o = none ∨ o = some .err := by
  intro st1
  have hcl : st1.closed = true := by
    obtain ⟨hp, hpc⟩ := run_frame mid (step st .peerClose).1
    show (runS st (.peerClose :: mid ++ [.connCheck true])).closed = true
    rw [List.cons_append, runS_cons, runS_append, runS_cons, step_connCheck, if_pos ⟨hp.trans htcp, rfl, hpc rfl⟩]
    exact doClose_closed _
  obtain ⟨h1, _, h3⟩ := no_write_after_close st1 hcl post
  exact ⟨hcl, h1, h3⟩

/-- a connection check that does not read EOF, or reads it on a connection the peer has not closed, changes nothing -/
theorem conn_check_without_eof_is_noop (st : LState) (hp : st.peerClosed = false) (eof : Bool) :
    (step st (.connCheck eof)).1 = st ∧ (step st (.connCheck false)).1 = st := by
  rw [step_connCheck, step_connCheck]
  exact ⟨if_neg fun h => Bool.false_ne_true (hp.symm.trans h.2.2), if_neg fun h => Bool.false_ne_true h.2.1⟩

/-! ## The model satisfies the executable specification -/

/-- for every schedule in which the application hands well-built sets to SendSet (C16 `length_inv`) and
    export times fit 32 bits: every element of the wire passes `Spec.C14.wellFormed` - the predicate the
    check evaluates on every datagram of a real run - and the concatenation of the wire (the TCP byte
    stream) is cut by `Spec.C14.splitFrames` into exactly the messages written, with nothing left over -/
theorem model_satisfies_spec (proto : Proto) (dom : Nat) (hd : dom < 4294967296) (evs : List Event)
    (hg : ∀ e ∈ evs, GoodEvent e) :
    framesOK dom (runS (LState.init proto dom) evs).wire = true ∧
    splitFrames (runS (LState.init proto dom) evs).wire.flatten.length (runS (LState.init proto dom) evs).wire.flatten =
      ((runS (LState.init proto dom) evs).wire, []) ∧
    streamOK dom (runS (LState.init proto dom) evs).wire.flatten = true := by
  obtain ⟨_, _, hw⟩ := run_wireInv hd evs (LState.init proto dom)
    ⟨rfl, Nat.zero_lt_succ _, fun _ hx => absurd hx List.not_mem_nil⟩ (reach_init proto dom) hg
  have hsplit := splitFrames_flatten dom _ _ hw (Nat.le_refl _)
  have hframes : framesOK dom (runS (LState.init proto dom) evs).wire = true := List.all_eq_true.mpr hw
  refine ⟨hframes, hsplit, ?_⟩
  unfold streamOK
  simp only [hsplit, hframes, List.isEmpty_nil, Bool.and_self]

/-! ## Lock discipline (regenerated table) -/

/-- every field of the process state that the application goroutine and a background goroutine both
    access, and that one of them writes, is accessed under templateMutex throughout or atomically
    throughout (holds since fix d3d6170 made the sequence number atomic) -/
theorem lockset_exporter :
    (∀ f ∈ Locks.trackedFields, (Generated.LocksExporter.fields.map (·.1)).contains f = true ∧ Locks.fieldOK f = true) ∧
    Locks.sharedWritten "seqNumber" = true ∧ Locks.sharedWritten "templatesMap" = true ∧
    Locks.sharedWritten "isClosed" = true := by
  -- the verdicts are those of `Locks.discipline`; evaluated here: the tracked fields are fields, none is jsonBufferLen
  have h : ∀ f ∈ Locks.trackedFields,
      (Generated.LocksExporter.fields.map (·.1)).contains f = true ∧ f ≠ "jsonBufferLen" := by decide +kernel
  refine ⟨fun f hf => ⟨(h f hf).1, Locks.fieldOK_of_ne (List.contains_iff_mem.mp (h f hf).1) (h f hf).2⟩, ?_, ?_, ?_⟩
  · exact Locks.sharedWritten_of_mem (by decide +kernel)
  · exact Locks.sharedWritten_of_mem (by decide +kernel)
  · exact Locks.sharedWritten_of_mem (by decide +kernel)

/-- over ALL fields the same holds with one exception, the configuration field jsonBufferLen:
    InitExportingProcess assigns it after its `go` statements, and the refresher can reach its only
    reader (createAndSendJSONMsg) through SendSet in the call graph. Statically unguarded; dynamically
    the refresher sends template sets only and the JSON path is taken for data sets only. -/
theorem lockset_exporter_all_fields_partial :
    (Generated.LocksExporter.fields.map (·.1)).filter (fun f => !Locks.fieldOK f) = ["jsonBufferLen"] :=
  Locks.discipline.2

/-- ties between the table and the event model: two background goroutines, the checker under
    protocol == "tcp" and the refresher under protocol == "udp"; the refresher sends through SendSet (the
    application's send path); both close through closeConnToCollector, which is the only place that
    touches isClosed and does so with an atomic method; createAndSendIPFIXMsg calls Write on the
    connection exactly once -/
theorem model_ties :
    Generated.LocksExporter.goroutines.map (·.2) = ["input.CollectorProtocol == \"tcp\"", "input.CollectorProtocol == \"udp\""] ∧
    Locks.callees "InitExportingProcess$go1" = ["checkConnToCollector", "closeConnToCollector"] ∧
    Locks.callees "InitExportingProcess$go2" = ["sendRefreshedTemplates", "closeConnToCollector"] ∧
    Locks.callees "sendRefreshedTemplates" = ["SendSet"] ∧
    Locks.callees "CloseConnToCollector" = ["closeConnToCollector"] ∧
    (Generated.LocksExporter.accesses.filter (·.field == "isClosed")).map (fun a => (a.unit, a.how, a.write)) =
      [("closeConnToCollector", "atomicMethod", true)] ∧
    ((Generated.LocksExporter.fieldCalls.filter (fun c => c.1 == "createAndSendIPFIXMsg" && c.2.2.1 == "Write")).length = 1) := by
  decide +kernel

/-- the refresh pass of the event model retransmits the templates that are in the template map AT THAT PASS
    (`Life.buildAll` over the current map). In the code that is so because `sendRefreshedTemplates` reads
    nothing of the exporting process but `templatesMap`, under `templateMutex`, and writes nothing: no cached
    copy of an earlier pass, no "changed since the last pass" flag whose update could be lost between the
    application's `updateTemplate` and the refresher (a window of microseconds that no harness schedule hits). -/
theorem tie_refresh_reads_only_the_template_map :
    (Generated.LocksExporter.accesses.filter (·.unit == "sendRefreshedTemplates")).all
        (fun a => a.write == false &&
          ((a.field == "templatesMap" && a.how == "mutex" && a.lock == "templateMutex") ||
           (a.field == "templateMutex" && a.how == "sync"))) = true ∧
    (Generated.LocksExporter.accesses.any
        (fun a => a.unit == "sendRefreshedTemplates" && a.field == "templatesMap")) = true := by decide +kernel

/-- EVERY call of the exported `CloseConnToCollector` waits for the background goroutines (`ep.wg.Wait()`,
    unconditionally, after the internal close): when any of several concurrent or repeated Close calls returns,
    the refresher / checker has exited and writes nothing more. A call that returned early because "somebody else
    is already closing" would let the refresher go on writing behind its back - a window of microseconds on a real
    socket, which no harness schedule hits. (The event model's `close` step is "mark closed, stop the goroutines";
    `close_idempotent`, `no_write_after_close` speak about the state after ANY close call.)
    By `rfl`: the regenerated `closeBody` is this very literal. -/
theorem tie_every_close_call_waits :
    Generated.LocksExporter.closeBody = ["ep.closeConnToCollector()", "ep.wg.Wait()"] := rfl

/-- the connection probe of the checker goroutine cannot disturb a write of the application: the only deadline
    the library ever arms on the connection is a READ deadline, in `checkConnToCollector` (a write deadline, or
    `SetDeadline`, armed by the probe would cut a `Write` of the application that is blocked on a slow collector
    short and leave a message prefix on the stream - the event model has no such step) -/
theorem tie_probe_arms_read_deadline_only :
    ((Generated.LocksExporter.fieldCalls.filter
        (fun c => c.2.2.1 == "SetDeadline" || c.2.2.1 == "SetReadDeadline" || c.2.2.1 == "SetWriteDeadline")).map
        (fun c => (c.1, c.2.1, c.2.2.1))) = [("checkConnToCollector", "connToCollector", "SetReadDeadline")] := by decide +kernel

/-- the sequence counter is shared by the application's sends and the refresher's (both go through
    `createAndSendIPFIXMsg`): it advances by ONE atomic read-modify-write (`atomic.AddUint32`) and is otherwise
    only loaded - there is no load ... store pair between which a concurrent send's records could be lost. This
    is what lets the event model (and C08's `seq_in_every_message`) treat "stamp and advance" as one step of
    whichever goroutine sends. -/
theorem tie_sequence_counter_advances_atomically :
    ((Generated.LocksExporter.atomicOps.filter (fun c => c.2.1 == "seqNumber")).map (fun c => (c.1, c.2.2.1))) =
      [("createAndSendIPFIXMsg", "LoadUint32"), ("createAndSendIPFIXMsg", "AddUint32")] ∧
    (Generated.LocksExporter.accesses.filter (fun a => a.field == "seqNumber" && a.how != "atomic")).map (·.unit) =
      ["InitExportingProcess:pre"] := by decide +kernel

/-- "subsequent sends fail instead of vanishing": the result of the connection's `Write` - the byte count and the
    error - is what the sending functions test and report; no statement after the call assigns those variables
    again. The event model (and C08 / C09: a send that succeeded put exactly one message on the wire, a template is
    registered only after it was written) takes "SendSet returned nil" to mean "Write returned (len, nil)"; a
    send path that turned some error of the real socket into a success (an ICMP-reported ECONNREFUSED on a UDP
    socket, say, which no in-memory connection ever returns) would break that reading without any input of the
    correspondence showing it. By `rfl`: the two regenerated definitions are these very literals. -/
theorem tie_write_result_reported_as_is :
    Generated.LocksExporter.connWrites =
      [("createAndSendIPFIXMsg", ["bytesSent", "err"]), ("createAndSendJSONMsg", ["bytes", "err"])] ∧
    Generated.LocksExporter.writeResultRewrites = [] := ⟨rfl, rfl⟩

/-! ## Non-vacuity -/

/-- what the sessions below show of a step's output: nothing was returned, or an error -/
def isErrOut : Option SendResult → Bool
  | none => true
  | some .err => true
  | some (.ok _ _) => false

def ieU8 : IE := ⟨"protocolIdentifier", 4, .unsigned8, 0, 1⟩
def ieStr : IE := ⟨"sourcePodName", 101, .string, 56506, 65535⟩
def tplSet : SetB := (makeTemplateSet 256 [ieU8, ieStr]).getD SetB.new
def dataSet : SetB :=
  { header := [1, 0, 0, 0], ty := .data,
    recs := [{ isTemplate := false, tid := 256, fieldCount := 2, elems := [(ieU8, .num 6), (ieStr, .bytes [97])], bytes := [6, 1, 97] }],
    length := 7 }

example : Refreshable 256 [ieU8, ieStr] := by
  refine ⟨by decide, by decide, ?_, by decide, by decide⟩
  intro ie hie; simp [ieU8, ieStr] at hie; rcases hie with rfl | rfl <;> simp [C02.SpecOK]
example : GoodEvent (.appSend 0 tplSet) ∧ GoodEvent (.appSend 0 dataSet) := by
  refine ⟨⟨⟨by decide, by decide⟩, by decide⟩, ⟨⟨by decide, by decide⟩, by decide⟩⟩

/-- a UDP session: template, data, a refresh (the tick queues the one recorded template, the step sends it), data,
    close by the application, a second close, then a send and a refresh attempt: 4 messages on the wire, the late
    send refused, the late refresh without effect -/
def udpDemo : List Event :=
  [.appSend 0 tplSet, .appSend 0 dataSet, .refreshTick id, .refreshStep 0, .appSend 0 dataSet, .close, .close,
   .appSend 0 dataSet, .refreshTick id, .refreshStep 0]

example : (runS (LState.init .udp 7) [.appSend 0 tplSet, .appSend 0 dataSet]).tpls = [(256, [ieU8, ieStr])] ∧
    (runS (LState.init .udp 7) [.appSend 0 tplSet, .appSend 0 dataSet]).wire.length = 2 ∧
    (runS (LState.init .udp 7) [.appSend 0 tplSet, .appSend 0 dataSet]).exp.seq = 1 := by decide +kernel

example : let r := run (LState.init .udp 7) udpDemo
    r.1.wire.length = 4 ∧ r.1.closed = true ∧ r.1.stopCloses = 1 ∧ r.1.exp.seq = 3 ∧
    r.2.map isErrOut = [false, false, true, true, false, true, true, true, true, true] := by decide +kernel

/-- D17's template: the registry's flowStartMicroseconds (id 154, dateTimeMicroseconds = type 16) next to an ordinary
    element. It can be built and sent by the application (an empty value is all a template record asks) ... -/
def ieMicro : IE := ⟨"flowStartMicroseconds", 154, .dateTimeMicroseconds, 0, 8⟩
def tplMicroSet : SetB := ((SetB.new.prepare .template 257).bind (·.addRecord [(ieU8, .num 0), (ieMicro, .num 0)] 257)).getD SetB.new

/-- ... but not rebuilt: MakeTemplateSet fails on it (and on it alone), so `buildAll` fails in either order -/
example : tplMicroSet.ty = .template ∧ tplMicroSet.recs.length = 1 ∧
    makeTemplateSet 257 [ieU8, ieMicro] = none ∧ (makeTemplateSet 256 [ieU8, ieStr]).isSome = true ∧
    buildAll [(256, [ieU8, ieStr]), (257, [ieU8, ieMicro])] = none ∧
    buildAll [(257, [ieU8, ieMicro]), (256, [ieU8, ieStr])] = none := by decide +kernel

/-- a UDP session with it: both templates and a data set go out (3 messages), the first refresh tick closes the process
    without writing, its (empty) send loop does nothing, the data sets of the OTHER template sent afterwards are
    refused - each call returns `.err` - and the application's Close finds the process closed already -/
def udpUnrefreshableDemo : List Event :=
  [.appSend 0 tplSet, .appSend 0 tplMicroSet, .appSend 0 dataSet, .refreshTick id, .refreshStep 0,
   .appSend 0 dataSet, .appSend 0 dataSet, .close, .appSend 0 dataSet]

example : (runS (LState.init .udp 7) (udpUnrefreshableDemo.take 3)).tpls = [(256, [ieU8, ieStr]), (257, [ieU8, ieMicro])] ∧
    (runS (LState.init .udp 7) (udpUnrefreshableDemo.take 3)).closed = false ∧
    (runS (LState.init .udp 7) (udpUnrefreshableDemo.take 3)).wire.length = 3 ∧
    (runS (LState.init .udp 7) (udpUnrefreshableDemo.take 4)).closed = true ∧
    (runS (LState.init .udp 7) (udpUnrefreshableDemo.take 4)).wire.length = 3 := by decide +kernel

example : let r := run (LState.init .udp 7) udpUnrefreshableDemo
    r.1.wire.length = 3 ∧ r.1.closed = true ∧ r.1.stopCloses = 1 ∧ r.1.pending = [] ∧
    r.2 = [r.2.head!, r.2[1]!, r.2[2]!, none, none, some .err, some .err, none, some .err] ∧
    r.2.map isErrOut = [false, false, false, true, true, true, true, true, true] := by decide +kernel

/-- the same tick whether the priority function visits the unbuildable template last or first: nothing is written either -/
example : (runS (LState.init .udp 7) (udpUnrefreshableDemo.take 3 ++ [.refreshTick (fun i => i), .refreshStep 0])).wire.length = 3 ∧
    (runS (LState.init .udp 7) (udpUnrefreshableDemo.take 3 ++ [.refreshTick (fun i => 1000 - i), .refreshStep 0])).wire.length = 3 ∧
    (runS (LState.init .udp 7) (udpUnrefreshableDemo.take 3 ++ [.refreshTick (fun i => 1000 - i)])).closed = true := by decide +kernel

/-- the executable specification derives "cannot be rebuilt" from the element types: of these two templates only 257 -/
example : unbuildable [{ ty := .template, setId := 256, recs := [(256, [(ieU8, .num 0), (ieStr, .bytes [])])] },
                       { ty := .template, setId := 257, recs := [(257, [(ieU8, .num 0), (ieMicro, .num 0)])] },
                       { ty := .data, setId := 256, recs := [(256, [(ieU8, .num 6), (ieStr, .bytes [97])])] }] = [257] := by decide +kernel

/-- every order is possible: two templates, refreshed in either order depending on the priority function -/
example : (refreshOrder id [(256, [ieU8]), (257, [ieStr])]).map (·.1) = [256, 257] ∧
    (refreshOrder (fun i => 1000 - i) [(256, [ieU8]), (257, [ieStr])]).map (·.1) = [257, 256] := by decide +kernel

/-- a TCP session: the collector closes, sends still "succeed" until the check reads EOF, then fail -/
example : let r := run (LState.init .tcp 7) [.appSend 0 tplSet, .peerClose, .appSend 0 dataSet, .connCheck true, .appSend 0 dataSet, .close]
    r.1.closed = true ∧ r.1.stopCloses = 1 ∧ r.1.wire.length = 2 ∧
    r.2.map isErrOut = [false, true, false, true, true, true] := by decide +kernel

/-- an EOF flag without a peer close (cannot happen on a real socket) does not close, nor does a check over UDP -/
example : (runS (LState.init .tcp 7) [.connCheck true]).closed = false ∧
    (runS (LState.init .udp 7) [.peerClose, .connCheck true]).closed = false := by decide +kernel

end Ipfix.C14
