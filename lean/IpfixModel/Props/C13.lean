/-
  C13 - Concurrent record ingestion by any number of workers, expiry scans and queries behave as if
  executed one at a time in some order consistent with real time.

  PARTIAL. What is PROVED here (for every execution / history / state, no bound):
    * `atomic_linearizable`: if every operation takes effect atomically at one point between its
      invocation and its response (the machine of Model/Atomic.lean), then the order of those
      points is a sequential execution of the same operations with the same responses and the same
      final state, and it respects real time;
    * `linearizable_sound`: the executable checker that is run on the histories recorded from the
      real code never accepts a history that has no such order;
    * what a sequential order then gives for the aggregation model: records for different keys do
      not interfere (`keys_independent`, `serialisation_independent`), no delta is lost or counted
      twice (`no_lost_delta`, `no_double_count`), no key is exported twice within a scan and a
      second scan at the same clock reading exports nothing (`no_double_export`,
      `no_double_export_reachable`, `rescan_exports_nothing`);
    * the tie to the source: `no_unguarded_access` (whence `lock_discipline_agg`) & co. are `decide`d over the lock table that
      tools/lockfacts-agg regenerates from pkg/intermediate on every run - every access to the flow
      map, the expiry queue and the worker list in a method reachable from a goroutine root happens
      with a.mutex held, the user callbacks run inside the critical section, and every operation
      acquires the lock once (one critical section, i.e. one atomic step per record / scan / query).
  What is NOT proved but OBSERVED on every run: that sync.RWMutex makes those critical sections
  atomic and that there is no data race (Go race detector on stress runs with 1..16 goroutines plus
  the worker pool), and that the real code's responses are those of the model (recorded small
  histories through `Ipfix.C13.holdsHistory`).
  Granularity: one atomic step per RECORD, not per message (AggregateMsgByFlowKey takes the lock
  once per record).
-/
import IpfixModel.Spec.C13
import IpfixModel.Lemmas.Atomic
import IpfixModel.Lemmas.AggLin
import IpfixModel.Lemmas.Sched
import IpfixModel.Generated.LocksAgg
namespace Ipfix.C13
open Agg Atomic AggLin

/-- For every well-formed execution whose operations take effect atomically at their `step`:
    the step order (1) lists the operations as they were invoked, (2) is a sequential execution
    from the initial state that ends in the same final state, (3) gives every operation the
    response it returned in the concurrent execution, and (4) respects real time - if `a`
    responded before `b` was invoked, `a`'s step comes before `b`'s. -/
theorem atomic_linearizable {σ Op Out : Type} [DecidableEq Out] (spec : σ → Op → σ × Out) (init : σ)
    (evs : List (Event Op Out)) (c : Cfg σ Op Out) (h : exec spec (Cfg.init init) evs = some c) :
    (c.lin.map (·.id) = stepOrder evs ∧ ∀ t ∈ c.lin, Event.inv t.id t.op ∈ evs) ∧
    seqRun spec init (c.lin.map fun t => (t.id, t.op)) = (c.state, c.lin) ∧
    (∀ i out, Event.res i out ∈ evs → ∃ t ∈ c.lin, t.id = i ∧ t.out = out) ∧
    (∀ a b, Precedes evs a b → b ∈ stepOrder evs → Before (stepOrder evs) a b) := by
  have tr := exec_trace spec h
  exact ⟨⟨tr.order, fun t ht => (tr.ops t ht).resolve_left List.not_mem_nil⟩, tr.seq,
    fun i out hr => (tr.resp i out hr).resolve_left List.not_mem_nil, exec_real_time spec h⟩

/-- the aggregation instance: any interleaving of record arrivals, scans and queries whose critical
    sections are atomic is a sequential run of `Ipfix.C13.spec` (same exported records, same answers,
    same final flow map and queue), in an order consistent with real time -/
theorem agg_atomic_linearizable (init : State) (evs : List (Event LOp Obs)) (c : Cfg State LOp Obs)
    (h : exec spec (Cfg.init init) evs = some c) :
    seqRun spec init (c.lin.map fun t => (t.id, t.op)) = (c.state, c.lin) ∧
    (∀ i out, Event.res i out ∈ evs → ∃ t ∈ c.lin, t.id = i ∧ t.out = out) ∧
    (∀ a b, Precedes evs a b → b ∈ stepOrder evs → Before (stepOrder evs) a b) :=
  (atomic_linearizable spec init evs c h).2

/-- if the checker accepts a recorded history then there IS a total order of its operations that is
    consistent with real time, whose sequential run from `init` reproduces every recorded response,
    and whose final state is the one observed after the run (if one was observed) -/
theorem linearizable_sound (init : State) (hist : List (HEvent LOp Obs)) (final : Option Final)
    (h : holdsHistory init hist final = true) :
    ∃ order s', order.Perm hist ∧ RealTime order ∧ Legal spec init order s' ∧
      (∀ f, final = some f → finalOf s' = f) := by
  obtain ⟨order, s', hp, hrt, hl, hf⟩ := search_sound spec _ hist.length init hist h
  refine ⟨order, s', hp, hrt, hl, ?_⟩
  intro f e
  subst e
  simpa using hf

/-- the same for the checker over any sequential specification `spec` and any test `fin` of the final state -/
theorem checker_sound {σ Op Out : Type} [BEq Out] (spec : σ → Op → σ × Out) (init : σ) (fin : σ → Bool)
    (hist : List (HEvent Op Out)) (h : linearizable spec init fin hist = true) :
    ∃ order s', order.Perm hist ∧ RealTime order ∧ Legal spec init order s' ∧ fin s' = true :=
  search_sound spec fin hist.length init hist h

theorem keys_independent (s : State) (r : InRec) (k : Nat) (h : r.key ≠ k) : (ingest s r).find k = s.find k :=
  ingest_find_ne s r k h

/-- the state of key `k` after any sequence of arrivals depends only on the arrivals for `k`, in
    their order: two serialisations of a concurrent run that agree on the per-key order (e.g. every
    goroutine owns its keys) give the same flow record -/
theorem serialisation_independent (s : State) (rs1 rs2 : List InRec) (k : Nat)
    (h : rs1.filter (·.key == k) = rs2.filter (·.key == k)) :
    (rs1.foldl ingest s).find k = (rs2.foldl ingest s).find k := by
  rw [ingests_per_key, ingests_per_key, h]

theorem runOps_noScan (ops : List LOp) (s : State) (h : noScan ops = true) :
    runOps s ops = (ingestsOf ops).foldl ingest s := by
  induction ops generalizing s with
  | nil => rfl
  | cons op ops ih =>
    cases op with
    | ingest r => exact ih _ (by simpa [noScan] using h)
    | scan f ra => simp [noScan] at h
    | numFlows => exact ih _ (by simpa [noScan] using h)
    | getExpiry => exact ih _ (by simpa [noScan] using h)
    | dump => exact ih _ (by simpa [noScan] using h)

/-- NO DELTA IS LOST OR DOUBLE-COUNTED. In any sequential order `ops` of arrivals and queries (any
    linearization of a concurrent phase between two scans), for a held flow `k` that needs no
    correlation whose arrivals come with increasing end times (the contract of C05): the per-node
    delta counter `i` of the flow ends up as its old value plus the sum of the deltas of ALL the
    arrivals for `k` - each exactly once - modulo 2^64, whatever was interleaved for other keys. -/
theorem no_lost_delta (s : State) (ops : List LOp) (k i : Nat) (a : AggRec) (hns : noScan ops = true)
    (hfind : s.find k = some a) (hd : isDelta i = true)
    (hrs : ∀ r ∈ (ingestsOf ops).filter (·.key == k), i < r.stats.length ∧ corrRequired r.flowType r.corr = false)
    (h0 : a.endDst ≠ 0) (hinc : Increasing a.endDst ((ingestsOf ops).filter (·.key == k)))
    (hb : a.dstStats.getD i 0 < u64 ∧ a.srcStats.getD i 0 < u64) :
    ∃ a', (runOps s ops).find k = some a' ∧
      a'.dstStats.getD i 0 = (a.dstStats.getD i 0 + sumDelta i ((ingestsOf ops).filter (·.key == k))) % u64 ∧
      a'.srcStats.getD i 0 = (a.srcStats.getD i 0 + sumDelta i ((ingestsOf ops).filter (·.key == k))) % u64 := by
  rw [runOps_noScan ops s hns, ingests_per_key, hfind, perKey_some]
  exact ⟨_, rfl, delta_sum _ a i hd (fun r hr => (hrs r hr).1) (fun r hr => (hrs r hr).2) h0 hinc hb⟩

/-- ... and since the last reset: after the exporter has reset the flow's statistics, the delta
    counter is exactly the sum of the deltas that arrived afterwards (mod 2^64) - nothing from
    before the reset is counted again -/
theorem no_double_count (s : State) (ops : List LOp) (k i : Nat) (a0 : AggRec) (hns : noScan ops = true)
    (hfind : s.find k = some (resetStats a0)) (hd : isDelta i = true)
    (hrs : ∀ r ∈ (ingestsOf ops).filter (·.key == k), i < r.stats.length ∧ corrRequired r.flowType r.corr = false)
    (h0 : a0.endDst ≠ 0) (hinc : Increasing a0.endDst ((ingestsOf ops).filter (·.key == k))) :
    ∃ a', (runOps s ops).find k = some a' ∧
      a'.dstStats.getD i 0 = sumDelta i ((ingestsOf ops).filter (·.key == k)) % u64 ∧
      a'.srcStats.getD i 0 = sumDelta i ((ingestsOf ops).filter (·.key == k)) % u64 := by
  obtain ⟨r1, r2, r3, _⟩ := reset_delta a0 i hd
  have hu : 0 < u64 := by unfold u64; omega
  obtain ⟨a', h1, h2, h3⟩ := no_lost_delta s ops k i (resetStats a0) hns hfind hd hrs (by rw [r3]; exact h0)
    (by rw [r3]; exact hinc) (by rw [r1, r2]; exact ⟨hu, hu⟩)
  refine ⟨a', h1, ?_, ?_⟩
  · rw [h2, r1, Nat.zero_add]
  · rw [h3, r2, Nat.zero_add]

/-- within one expiry scan no key is handed to the callback twice (the callbacks are for distinct items of the
    queue the scan starts with, which under the scheduling invariant holds one item per key) -/
theorem no_double_export (s : State) (fail : Nat → Bool) (ra : Bool) (h : Sched s) :
    ((scan s fail ra).2.callbacks.map (·.1)).Nodup := scan_callbacks_nodup s fail ra h

/-- ... in every state the process can reach, by any sequential order of arrivals, clock advances and
    scans (hence, by `atomic_linearizable`, by any interleaving of atomic operations) -/
theorem no_double_export_reachable (a i : Nat) (ops : List Agg.Op) (fail : Nat → Bool) (ra : Bool) :
    ((scan (ops.foldl step { activeT := a, inactiveT := i }) fail ra).2.callbacks.map (·.1)).Nodup :=
  scan_callbacks_nodup _ fail ra (sched_reachable a i ops)

/-- no flow is exported twice for one deadline: after a scan that ran to its end (positive
    timeouts), another scan at the same clock reading finds nothing due -/
theorem rescan_exports_nothing (s : State) (f f' : Nat → Bool) (ra ra' : Bool) (h : Sched s)
    (hA : 0 < s.activeT) (hI : 0 < s.inactiveT) (hok : (scan s f ra).2.failed = false) :
    (scan (scan s f ra).1 f' ra').2.callbacks = [] := by
  apply scan_all_future _ f' ra' (sched_scan s f ra h)
  rw [scan_now s f ra]
  exact after_scan_future s f ra h hA hI hok

/-! ## tie to the source: the regenerated lock table (tools/lockfacts-agg) -/

/-- no access to flowKeyRecordMap / expirePriorityQueue / workerList in the package is unguarded, reachable
    from a goroutine root or not -/
theorem no_unguarded_access : ∀ acc ∈ Generated.aggAccesses, acc.2.2.2 = true := by decide

/-- every access to flowKeyRecordMap / expirePriorityQueue / workerList in a method reachable from a
    goroutine root (the exported API, the worker loop) is made with a.mutex held -/
theorem lock_discipline_agg :
    ∀ root ∈ Generated.aggRoots, ∀ m ∈ root.2, ∀ acc ∈ Generated.aggAccesses,
      acc.1 = m → acc.2.1 ∈ sharedFields → acc.2.2.2 = true :=
  fun _ _ _ _ acc hacc _ _ => no_unguarded_access acc hacc

/-- the user callbacks (expiry export, ForAllRecordsDo) run inside the critical section: the record
    they are shown cannot change under them -/
theorem callbacks_inside_critical_section : ∀ c ∈ Generated.aggCallbackCalls, c.2.2 = true := by decide

/-- the critical sections are EXCLUSIVE where they have to be: a method that writes shared state, or that
    hands a live record to a user callback (the documented use of those callbacks is to modify the record:
    ResetStatAndThroughputElementsInRecord, SetExternalFieldsFilled, ...), or the query that renders live
    records (GetRecords reads what such a callback writes), never takes a.mutex in shared mode - two such
    operations cannot overlap, which is what "one atomic step each" in the model means. A read lock in a
    method that only reads scalars (GetNumFlows) would be harmless and does not break this. -/
theorem exclusive_lock_where_records_are_exposed :
    (∀ acc ∈ Generated.aggAccesses, acc.2.2.1 = "w" → acc.1 ∉ Generated.aggSharedLockUsers) ∧
    (∀ c ∈ Generated.aggCallbackCalls, c.1 ∉ Generated.aggSharedLockUsers) ∧
    "GetRecords" ∉ Generated.aggSharedLockUsers := by decide

/-- the helpers that run INSIDE an operation's critical section (every call site holds the lock) never take the
    mutex themselves - so they cannot release it in the middle either (a helper that did `Unlock(); slow work; Lock()`
    would split the operation's one atomic step into read / compute / write-back, with every access still made under
    the lock: no lockset analysis and no race detector objects to that, the updates of two ingesting goroutines
    just overwrite each other) -/
theorem helpers_never_touch_the_mutex :
    ∀ m ∈ Generated.aggCalledWithLock, (m, 0, false) ∈ Generated.aggLockRegions := by decide +kernel

/-- every operation reads the clock INSIDE its critical section: the time an operation acts on (deadlines it sets,
    "is it due", "how long until the next deadline") is the time of its atomic step, not a reading taken before it
    waited for the lock - an answer computed from state after somebody else's step and a clock reading from before
    it is one no sequential execution can give. (The harness's clock is frozen while operations run, so no input
    can exhibit a reading taken too early.) -/
theorem clock_read_inside_critical_section :
    Generated.aggClockReads.isEmpty = false ∧ ∀ r ∈ Generated.aggClockReads, r.2 = true := by decide

/-- one critical section per operation: no method acquires the lock more than once, so an operation
    is ONE atomic step (per record for ingestion) -/
theorem one_critical_section_per_operation : ∀ m ∈ Generated.aggLockRegions, m.2.1 ≤ 1 := by decide

/-- the helpers that rewrite flow records (correlation, aggregation, added fields) are unexported,
    never handed out as method values, and every call site of them holds the lock -/
theorem record_helpers_called_with_lock :
    ∀ m ∈ ["correlateRecords", "aggregateRecords", "addFieldsForStatsAggregation",
           "addFieldsForThroughputCalculation", "updateFlowEndSecondsFromNodes",
           "deleteFlowKeyFromMapWithoutLock"], m ∈ Generated.aggCalledWithLock := by decide +kernel

/-- the table is about the operations the property names: each of them touches shared state, takes
    the lock itself, and is reachable from a goroutine root; the worker goroutine reaches the
    per-record ingestion -/
theorem lock_table_covers_operations :
    (∀ m ∈ ["GetNumFlows", "ForAllRecordsDo", "GetExpiryFromExpirePriorityQueue", "GetRecords",
            "ForAllExpiredFlowRecordsDo", "addOrUpdateRecordInMap", "Start", "Stop"],
        Generated.aggAccesses.any (·.1 == m) = true ∧ (m, 1, true) ∈ Generated.aggLockRegions ∨
          Generated.aggAccesses.any (·.1 == m) = true ∧ (m, 1, false) ∈ Generated.aggLockRegions) ∧
    (∃ root ∈ Generated.aggRoots, root.1 = "AggregateMsgByFlowKey" ∧ "addOrUpdateRecordInMap" ∈ root.2) ∧
    (∃ root ∈ Generated.aggRoots, root.1 = "worker.start$go1" ∧ "addOrUpdateRecordInMap" ∈ root.2) := by
  decide +kernel

def rA : InRec := { key := 1, flowType := 1, corr := [.str [1], .str [], .str [], .str [2], .str [], .str [], .ip4 [0,0,0,0], .num 0, .num 0, .num 0, .num 0, .ip6 zero16],
                    start := 100, end_ := 101, endReason := 2, tcpState := [], stats := [1, 1, 1, 1, 1, 1, 1, 1] }
def rB : InRec := { rA with key := 2 }
def s0 : State := { activeT := 100, inactiveT := 250 }

/-- a well-formed atomic execution with two overlapping operations -/
example : (exec spec (Cfg.init s0)
    [.inv 1 (.ingest rA), .inv 2 .numFlows, .step 2, .step 1, .res 1 .ack, .res 2 (.num 0)]).isSome = true := by decide +kernel
/-- ... and an ill-formed one (the response is not the one computed at the step) -/
example : (exec spec (Cfg.init s0)
    [.inv 1 (.ingest rA), .inv 2 .numFlows, .step 1, .step 2, .res 1 .ack, .res 2 (.num 0)]).isSome = false := by decide +kernel

/-- a concrete overlapping history that is linearizable: GetNumFlows overlaps an ingest and may see 0 or 1 -/
example : holdsHistory s0 [{ id := 1, op := .ingest rA, out := .ack, inv := 1, res := 4 },
                           { id := 2, thread := 1, op := .numFlows, out := .num 0, inv := 2, res := 3 }] none = true := by decide +kernel
example : holdsHistory s0 [{ id := 1, op := .ingest rA, out := .ack, inv := 1, res := 4 },
                           { id := 2, thread := 1, op := .numFlows, out := .num 1, inv := 2, res := 3 }] none = true := by decide +kernel
/-- ... and one that is not: the ingest had RETURNED before GetNumFlows was called, yet 0 flows are reported -/
example : holdsHistory s0 [{ id := 1, op := .ingest rA, out := .ack, inv := 1, res := 2 },
                           { id := 2, thread := 1, op := .numFlows, out := .num 0, inv := 3, res := 4 }] none = false := by decide +kernel
/-- ... and a lost update: two overlapping ingests for different keys, but only one flow at the end -/
example : holdsHistory s0 [{ id := 1, op := .ingest rA, out := .ack, inv := 1, res := 4 },
                           { id := 2, thread := 1, op := .ingest rB, out := .ack, inv := 2, res := 3 }]
            (some (finalOf (ingest s0 rA))) = false := by decide +kernel
/-- the hypotheses of `no_lost_delta` are satisfiable: a second, newer record adds its delta -/
example : ((runOps (ingest s0 rA) [.ingest { rA with end_ := 102 }, .numFlows]).find 1).map (·.dstStats.getD 1 0) = some 2 := by decide +kernel

end Ipfix.C13
