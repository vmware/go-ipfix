/-
  C19 - Kafka publication: one payload per data record, in order, none for templates; every
  payload is a 4-byte big-endian length followed by exactly that many bytes of protobuf that
  decode to the record's field values and the message's header; the consumer recovers them.
  Property theorems, the witness stream of finding D14 and the sample data of the examples; helper lemmas
  live in Lemmas/Kafka.lean, among them `holdsOn_modelObs`, which is `model_satisfies_spec` for any schema
  that passes the ties.

  All statements are about the model (Model/Kafka.lean) at full strength: every stream, every
  record count, every value. The explicit hypotheses are decidable:
    * `Msg.wellTyped` - every element the schema maps carries the Go type its getter reads: the domain of
                       the model (Model/Kafka.lean), outside it the Go code panics (`model_satisfies_spec`);
    * `recordValid`  - the strings of the record's proto message are valid UTF-8. Without it the
                       statement is FALSE for the code and for the model alike
                       (`nonutf8_record_dropped`, `count_and_order_full_strength_fails`: finding D14);
    * `recordFits`   - the protobuf bytes are shorter than 2^32 (else `uint32(len)` wraps);
    * `fieldsOK`     - schema well-formedness, proved for both shipped schemas (`tie_schema_shape`);
    * `sizesOK`      - every string is shorter than 2^64 (`proto_round_trip`); implied by `recordFits`
                       (`sizesOK_of_length`);
    * `n < 2^64`     - varints carry uint64 values.
  The first `example` at the end shows `Msg.wellTyped`, `recordValid` and `recordFits` (hence `sizesOK`) satisfied
  together, by a stream with a template message and a data message; `fieldsOK` is a theorem.
-/
import IpfixModel.Lemmas.Kafka
namespace Ipfix.C19
open Ipfix.Kafka

/-! ## Tie lemmas: the regenerated facts have the shape the statements rely on -/

/-- the element-name -> field switch of flowtype1.go is the reference mapping of Spec/C19 -/
theorem tie_mapping_flowType1 : refSchema flowType1 = flowType1 :=
  -- both sides unfold to the same literal tables, so this is a syntactic comparison (no string is
  -- compared character by character, as `decide` would); it fails as soon as the regenerated
  -- switch differs from `refHdr` / `refMap`
  rfl

/-- the element-name -> field switch of flowtype2.go is the reference mapping of Spec/C19 -/
theorem tie_mapping_flowType2 : refSchema flowType2 = flowType2 := rfl

/-- both message types: field numbers in 1 .. 2^29-1 and unambiguous; every field the convertor
    assigns exists -/
theorem tie_schema_shape :
    fieldsOK flowType1.fields = true ∧ fieldsOK flowType2.fields = true ∧
    (∀ S ∈ [flowType1, flowType2], (S.map.all fun e => (S.field? e.2.1).isSome) = true ∧
      (S.hdr.all fun e => (S.field? e.1).isSome) = true) := by
  decide +kernel

/-- the consumer strips as many bytes as the producer prepends -/
theorem tie_prefix_length : Generated.cmsgDelimitLen = 4 := by decide

/-! ## Varints -/

/-- every uint64 survives the varint encoding, whatever follows it -/
theorem varint_round_trip (n : Nat) (h : n < 2 ^ 64) (rest : Bytes) :
    decodeVarint (encodeVarint n ++ rest) = some (n, rest) :=
  decodeVarint_encodeVarint n rest h

/-! ## Framing -/

/-- the 4-byte big-endian prefix is the real length of what follows, and stripping it gives back
    the protobuf bytes -/
theorem frame_exact (b : Bytes) (h : b.length < 2 ^ 32) :
    unframe (frame b) = some b ∧ (frame b).length = 4 + b.length ∧
    unbe ((frame b).take 4) = b.length ∧ (frame b).drop 4 = b :=
  ⟨unframe_frame b h, frame_length b, frame_prefix b h, frame_drop b⟩

/-! ## Protobuf -/

/-- Unmarshal ∘ Marshal: whenever the struct can be marshalled, decoding the bytes yields exactly
    its populated fields (non-zero numbers at their Go width, non-empty strings), in field-number
    order, and no unknown field -/
theorem proto_round_trip (fs : List Field) (hfs : fieldsOK fs = true) (f : Flow) (bs : Bytes)
    (hs : sizesOK (normalise (wireOrder fs) f) = true) (h : protoEncode fs f = some bs) :
    protoDecodeFull fs bs = some (normalise (wireOrder fs) f, []) ∧
    protoDecode fs bs = some (normalise (wireOrder fs) f) := by
  rw [protoEncode_eq] at h
  split at h
  · next hv =>
    cases h
    have := protoDecodeFull_normalise fs hfs f hv hs
    exact ⟨this, by rw [protoDecode, this]; rfl⟩
  · cases h

/-- Marshal fails exactly when a populated string field is not valid UTF-8 -/
theorem protoEncode_none_iff (fs : List Field) (f : Flow) :
    protoEncode fs f = none ↔ stringsValid (normalise (wireOrder fs) f) = false := by
  rw [protoEncode_eq]
  split <;> simp_all

/-! ## Count and order -/

/-- a template message publishes nothing -/
theorem template_publishes_nothing (S : Schema) (m : Msg) (h : m.isData = false) :
    publishMsg S m = [] := by simp [publishMsg, h]

/-- messages are handled one after the other: the stream's payloads are the concatenation -/
theorem publish_append (S : Schema) (a b : List Msg) : publish S (a ++ b) = publish S a ++ publish S b := by
  simp [publish]

/-- without the guard the model never publishes more than one payload per record, and the
    payloads it does publish are those of the valid records, in order -/
theorem publish_is_valid_subsequence (S : Schema) (msgs : List Msg) :
    publish S msgs = ((dataRecords msgs).filter (recordValid S)).map (fun hr => frame (bodyOf S hr)) :=
  publish_eq_map_filter S msgs

/-- exactly one payload per data record, in message order and record order within a message, none
    for template messages - provided every record's strings are valid UTF-8 -/
theorem count_and_order_partial (S : Schema) (msgs : List Msg)
    (hvalid : ∀ hr ∈ dataRecords msgs, recordValid S hr = true) :
    publish S msgs = (dataRecords msgs).map (fun hr => frame (bodyOf S hr)) ∧
    (publish S msgs).length = (dataRecords msgs).length := by
  have h := publish_is_valid_subsequence S msgs
  rw [List.filter_eq_self.mpr hvalid] at h
  exact ⟨h, by rw [h, List.length_map]⟩

/-- the number of data records of a stream, spelled out -/
theorem dataRecords_length (msgs : List Msg) :
    (dataRecords msgs).length = (msgs.map fun m => if m.isData then m.records.length else 0).sum := by
  rw [dataRecords, List.length_flatMap]
  congr 2
  funext m
  cases m.isData <;> simp

/-- never more than one payload per data record -/
theorem at_most_one_per_record (S : Schema) (msgs : List Msg) :
    (publish S msgs).length ≤ (dataRecords msgs).length := by
  rw [publish_is_valid_subsequence, List.length_map]
  exact List.length_filter_le _ _

/-! ## What the proto message of a record holds (the convertor, element by element) -/

/-- the header fields: export time, sequence number, observation domain, exporter address -/
theorem header_fields (h : Hdr) :
    fieldsOf flowType1 h [] = [(33, .str h.exportAddr), (3, .num h.obsDomain), (2, .num h.seqNum), (1, .num h.exportTime)] ∧
    fieldsOf flowType2 h [] = [(33, .str h.exportAddr), (3, .num h.obsDomain), (2, .num h.seqNum), (1, .num h.exportTime)] := by
  constructor <;> rfl

/-- an element whose name the schema maps stores its value in that field (it overrides whatever an
    earlier element of the record put there); the right-hand side is what the field holds after the
    assignment `fd := v` alone: `v` at the field's Go type (a number reduced to the field's width, a
    string as it is, the zero value if `v` is not of the field's kind) -/
theorem element_value_stored (S : Schema) (h : Hdr) (r : Record) (e : IE × Value) (goField getter : String)
    (fd : Field) (v : PVal) (hmap : S.map.lookup e.1.name = some (goField, getter))
    (hfd : S.field? goField = some fd) (hv : elemVal getter e = some v) :
    Flow.get (fieldsOf S h (r ++ [e])) fd = Flow.get [(fd.num, v)] fd := by
  rw [fieldsOf_snoc]
  simp [applyElem, hmap, hv, assign, hfd, Flow.get, List.lookup]

/-- an element the schema does not know changes nothing -/
theorem unknown_element_ignored (S : Schema) (h : Hdr) (r : Record) (e : IE × Value)
    (hmap : S.map.lookup e.1.name = none) : fieldsOf S h (r ++ [e]) = fieldsOf S h r := by
  rw [fieldsOf_snoc]
  simp [applyElem, hmap]

/-- addresses are rendered as ASCII text, so they can never make Marshal fail -/
theorem address_text_is_valid_utf8 (ip : Bytes) : validUTF8 (ipString ip) = true :=
  validUTF8_of_ascii _ (ipString_ascii ip)

/-! ## The known defect: a record with a string that is not valid UTF-8 is silently dropped -/

/-- sourcePodName of three records: "ok-1", "bad-\xff\xfe", "ok-2" -/
def witnessMsg : Msg :=
  let ie : IE := { name := "sourcePodName", id := 101, ty := .string, ent := 56506, len := 65535 }
  { hdr := { exportTime := 1, seqNum := 2, obsDomain := 3, exportAddr := ascii "10.0.0.1" },
    isData := true,
    records := [[(ie, .bytes (ascii "ok-1"))], [(ie, .bytes (ascii "bad-" ++ [0xff, 0xfe]))], [(ie, .bytes (ascii "ok-2"))]] }

/-- three data records, two Kafka messages -/
theorem nonutf8_record_dropped :
    (dataRecords [witnessMsg]).length = 3 ∧ (publish flowType1 [witnessMsg]).length = 2 ∧
    (publish flowType2 [witnessMsg]).length = 2 := by decide +kernel

/-- hence the full-strength statement (one payload per data record for EVERY stream) is false -/
theorem count_and_order_full_strength_fails :
    ¬ ∀ msgs : List Msg, (publish flowType1 msgs).length = (dataRecords msgs).length := by
  intro h
  have := h [witnessMsg]
  rw [nonutf8_record_dropped.2.1, nonutf8_record_dropped.1] at this
  cases this

/-! ## The consumer -/

/-- the consumer-side decoder accepts the payload of every valid record and recovers exactly the
    populated fields of the proto message the convertor built -/
theorem consumer_recovers (S : Schema) (hfs : fieldsOK S.fields = true) (hr : Hdr × Record)
    (hvalid : recordValid S hr = true) (hfits : recordFits S hr = true) :
    ∃ p, payloadOf S hr.1 hr.2 = some p ∧
      consumerDecode S p = .ok (normalise (wireOrder S.fields) (fieldsOf S hr.1 hr.2)) := by
  refine ⟨frame (bodyOf S hr), by rw [payloadOf_eq, if_pos hvalid], ?_⟩
  rw [consumerDecode_frame, protoDecode, protoDecodeFull_bodyOf S hfs hr hvalid hfits]
  rfl

/-! ## The model's own output satisfies the executable predicate -/

theorem checkAll_map {α : Type} (S : Schema) (topic : Bytes) (e : α → Canon) (o : α → Obs) (l : List α)
    (h : ∀ x ∈ l, checkOne S topic (e x) (o x) = none) (i : Nat) :
    checkAll S topic (l.map e) (l.map o) i = .holds :=
  checkAll_of_forall S topic e o l h i

/-- one payload of the model passes every clause of `checkOne` -/
theorem checkOne_model (S : Schema) (href : refSchema S = S) (hfs : fieldsOK S.fields = true)
    (topic : Bytes) (hr : Hdr × Record) (hvalid : recordValid S hr = true) (hfits : recordFits S hr = true) :
    checkOne S topic (expectedOf S hr) (obsOf S topic (frame (bodyOf S hr))) = none :=
  checkOne_bodyOf S href hfs topic hr hvalid hfits

/-- For both shipped schemas and every well-typed stream whose records are valid and fit, the
    observation the model produces satisfies `Spec.C19.holdsOn` - the predicate the check evaluates
    on the implementation's payloads. -/
theorem model_satisfies_spec (S : Schema) (hS : S = flowType1 ∨ S = flowType2) (topic : Bytes) (msgs : List Msg)
    (hwt : msgs.all (Msg.wellTyped S) = true)
    (hvalid : ∀ hr ∈ dataRecords msgs, recordValid S hr = true)
    (hfits : ∀ hr ∈ dataRecords msgs, recordFits S hr = true) :
    holdsOn S topic msgs (modelObs S topic msgs) = .holds := by
  rcases hS with rfl | rfl
  · exact holdsOn_modelObs _ tie_mapping_flowType1 tie_schema_shape.1 topic msgs hwt hvalid hfits
  · exact holdsOn_modelObs _ tie_mapping_flowType2 tie_schema_shape.2.1 topic msgs hwt hvalid hfits

/-! ## Non-vacuity -/

/-- one flow record: IPv4 source, IPv6 destination, a port, a counter at the top of its range, a pod name, and an
    element neither schema maps (tcpState) -/
def sampleRecord : Record :=
  [({ name := "sourceIPv4Address", id := 8, ty := .ipv4Address, ent := 0, len := 4 }, .bytes [10, 0, 0, 1]),
   ({ name := "destinationIPv6Address", id := 28, ty := .ipv6Address, ent := 0, len := 16 },
      .bytes [0x20, 0x01, 0x0d, 0xb8, 0, 0, 0, 0, 0, 0, 0, 0, 0, 0, 0, 1]),
   ({ name := "sourceTransportPort", id := 7, ty := .unsigned16, ent := 0, len := 2 }, .num 1234),
   ({ name := "packetTotalCount", id := 86, ty := .unsigned64, ent := 0, len := 8 }, .num (2 ^ 64 - 1)),
   ({ name := "sourcePodName", id := 101, ty := .string, ent := 56506, len := 65535 }, .bytes (ascii "pod-a")),
   ({ name := "tcpState", id := 136, ty := .string, ent := 56506, len := 65535 }, .bytes (ascii "ESTABLISHED"))]

def sampleMsgs : List Msg :=
  [{ hdr := { exportTime := 9, seqNum := 1, obsDomain := 1, exportAddr := ascii "10.0.0.1" }, isData := false, records := [sampleRecord] },
   { hdr := { exportTime := 100, seqNum := 7, obsDomain := 9, exportAddr := ascii "10.0.0.1" }, isData := true,
     records := [sampleRecord, [], sampleRecord] }]

/-- the hypotheses of `model_satisfies_spec` / `count_and_order_partial` are satisfiable by a
    stream with a template message and a data message of three records -/
example : sampleMsgs.all (Msg.wellTyped flowType1) = true ∧
    (dataRecords sampleMsgs).all (recordValid flowType1) = true ∧
    (dataRecords sampleMsgs).all (recordFits flowType1) = true ∧
    (publish flowType1 sampleMsgs).length = 3 := by decide +kernel

/-- the populated fields of the sample record: header, addresses as text, port, counter, pod name;
    the element the schema does not know (tcpState) is ignored -/
example : expectedOf flowType1 (sampleMsgs[1]!.hdr, sampleRecord) =
    [(1, .num 100), (2, .num 7), (3, .num 9), (6, .str (ascii "10.0.0.1")), (7, .str (ascii "2001:db8::1")),
     (8, .num 1234), (11, .num (2 ^ 64 - 1)), (19, .str (ascii "pod-a")), (33, .str (ascii "10.0.0.1"))] := by decide +kernel

/-- varint boundaries -/
example : encodeVarint 0 = [0] ∧ encodeVarint 127 = [0x7f] ∧ encodeVarint 128 = [0x80, 0x01] ∧
    encodeVarint 300 = [0xac, 0x02] ∧ (encodeVarint (2 ^ 64 - 1)).length = 10 ∧
    decodeVarint [0xff, 0xff, 0xff, 0xff, 0xff, 0xff, 0xff, 0xff, 0xff, 0x02] = none := by decide +kernel

/-- utf8.Valid at its boundaries -/
example : validUTF8 [0xc2, 0x80] = true ∧ validUTF8 [0xc0, 0x80] = false ∧ validUTF8 [0xed, 0x9f, 0xbf] = true ∧
    validUTF8 [0xed, 0xa0, 0x80] = false ∧ validUTF8 [0xf4, 0x8f, 0xbf, 0xbf] = true ∧
    validUTF8 [0xf4, 0x90, 0x80, 0x80] = false ∧ validUTF8 [0xe2, 0x82] = false := by decide +kernel

/-- net.IP.String: RFC 5952 compresses the first longest run of two or more zero groups -/
example : ipString [0, 1, 0, 0, 0, 0, 0, 0, 0, 1, 0, 0, 0, 0, 0, 0x0a] = ascii "1::1:0:0:a" ∧
    ipString [0, 0, 0, 0, 0, 0, 0, 0, 0, 0, 0xff, 0xff, 1, 2, 3, 4] = ascii "1.2.3.4" ∧
    ipString [] = ascii "<nil>" ∧ ipString [1, 2, 3] = ascii "?010203" := by decide +kernel

end Ipfix.C19
