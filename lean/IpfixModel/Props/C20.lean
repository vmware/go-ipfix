/-
  C20 - the standalone collector's in-memory store: bounded, ordered window of the most recent
  messages; queries return the last min(n, stored) entries in either format; invalid requests
  are refused; reset empties; every field of a message is in its rendered entry.
  Property theorems (all operation sequences, by induction; no bound on their length), the last of them
  in two steps (`missingField_render`, `holdsFrom_model`), and the sample message of the examples;
  helper lemmas live in Lemmas/Store.lean.
-/
import IpfixModel.Lemmas.Store
namespace Ipfix.C20
open Ipfix.Store

/-! ## Tie: the model's cap is the constant in cmd/collector/collector.go -/

theorem tie_cap : cap = Generated.cmaxFlowRecords ∧ 0 < cap := ⟨rfl, cap_pos⟩

/-! ## The store is the window of the most recent arrivals, in arrival order -/

/-- if the store is the last `cap` of the arrivals so far, it still is after any sequence of
    operations (arrivals = entries of the messages received since the last successful reset) -/
theorem window (ops : List Op) : ∀ (s : Store) (acc : List String), s.items = takeLast cap acc →
    (s.exec ops).items = takeLast cap (arrivals acc ops) := by
  induction ops with
  | nil => intro s acc h; exact h
  | cons op ops ih =>
    intro s acc h
    rw [arrivals_cons]
    exact ih _ _ (step_window op h)

theorem window_init (ops : List Op) : (Store.empty.exec ops).items = takeLast cap (arrivals [] ops) :=
  window ops _ _ (by simp [Store.empty])

/-- in particular: while fewer than `cap` messages have arrived since the last reset the store
    holds all of them -/
theorem window_all (ops : List Op) (h : (arrivals [] ops).length ≤ cap) :
    (Store.empty.exec ops).items = arrivals [] ops := by
  rw [window_init, takeLast_of_length_le h]

/-! ## The store never holds more than the cap

  A store within the cap is the window of its own entries (`window_self`), so the bound is the
  length of a window. -/

/-- invariant of every operation -/
theorem step_len_le_cap (s : Store) (op : Op) (h : s.items.length ≤ cap) : (s.step op).1.items.length ≤ cap := by
  rw [step_window op (window_self h)]
  exact takeLast_length_le _ _

/-- after any sequence of arrivals, queries and resets (valid or not) the store holds at most
    `cap` entries -/
theorem len_le_cap (ops : List Op) : ∀ (s : Store), s.items.length ≤ cap → (s.exec ops).items.length ≤ cap := by
  intro s h
  rw [window ops s _ (window_self h)]
  exact takeLast_length_le _ _

theorem len_le_cap_init (ops : List Op) : (Store.empty.exec ops).items.length ≤ cap :=
  len_le_cap ops _ (by simp [Store.empty])

/-! ## Queries -/

/-- a query for `n` returns the last min(n, stored) entries, in order -/
theorem query_last (s : Store) (n : Nat) :
    s.query (some n) = s.items.drop (s.items.length - min n s.items.length) := by
  simpa [takeLast] using query_eq s (some n)

/-- a query without a count returns everything -/
theorem query_all (s : Store) : s.query none = s.items := by
  rw [query_eq]
  exact takeLast_of_length_le (Nat.le_refl _)

/-- the number of entries returned -/
theorem query_length (s : Store) (n : Nat) : (s.query (some n)).length = min n s.items.length := by
  rw [query_eq, takeLast_length]
  exact Nat.min_eq_left (Nat.min_le_right n _)

/-- the response to a valid GET /records, in either format: 200 and the encoding of the last
    min(n, stored) entries -/
theorem query_response (s : Store) (c f : Option String) (n : Nat) (fm : Fmt)
    (hc : countArg c = some (some n)) (hf : formatArg f = some fm) :
    s.handleRecords "GET" c f = ⟨200, encode fm (takeLast (min n s.items.length) s.items)⟩ := by
  rw [handleRecords_get s hc hf, query_eq]

theorem query_response_all (s : Store) (c f : Option String) (fm : Fmt)
    (hc : countArg c = some none) (hf : formatArg f = some fm) :
    s.handleRecords "GET" c f = ⟨200, encode fm s.items⟩ := by
  rw [handleRecords_get s hc hf, query_all]

/-- a wrong method, an invalid count or an invalid format is refused with a 4xx status -/
theorem query_refused (s : Store) (method : String) (c f : Option String)
    (h : method ≠ "GET" ∨ countArg c = none ∨ formatArg f = none) :
    (s.handleRecords method c f).status / 100 = 4 := by
  unfold handleRecords
  split
  · rfl
  · split
    · rfl
    · split
      · rfl
      · simp_all

/-- no request to /records, valid or not, changes the store -/
theorem records_unchanged (s : Store) (method : String) (c f : Option String) :
    (s.step (.records method c f)).1 = s := rfl

/-! ## Reset -/

/-- POST /reset empties the store and answers 200 -/
theorem reset_empties (s : Store) :
    (s.step (.reset "POST")).1.items = [] ∧ (s.step (.reset "POST")).2 = .resp 200 "Flow records successfully reset" := by
  simp [step, handleReset, reset]

/-- any other method on /reset is refused and leaves the store unchanged -/
theorem reset_refused (s : Store) (method : String) (h : method ≠ "POST") :
    (s.step (.reset method)).1 = s ∧ (s.step (.reset method)).2 = .resp 405 "Invalid request method\n" := by
  simp [step, handleReset, h, refuseMethod]

/-- after a reset, the store is exactly the window of what arrived afterwards -/
theorem reset_then (s : Store) (ops : List Op) :
    (s.exec (.reset "POST" :: ops)).items = takeLast cap (arrivals [] ops) := by
  simp only [exec]
  exact window ops _ _ (by simp [(reset_empties s).1])

/-! ## Rendering -/

/-- every field of every record has its line among the lines of the entry -/
theorem render_complete_lines (m : Msg) (r : List (IE × Value)) (f : IE × Value)
    (hr : r ∈ m.records) (hf : f ∈ r) : elemLine m.isTemplate f ∈ renderLines m :=
  mem_renderLines hr hf

/-- data message: for every record and every field, the line `    name: value \n` occurs in the
    rendered entry -/
theorem render_complete (m : Msg) (hd : m.isTemplate = false) (r : List (IE × Value)) (ie : IE) (v : Value)
    (hr : r ∈ m.records) (hf : (ie, v) ∈ r) :
    ∃ pre post, render m = pre ++ ("    " ++ ie.name ++ ": " ++ fmtValue ie v ++ " \n") ++ post := by
  have h := render_complete_lines m r (ie, v) hr hf
  rw [hd] at h
  exact String.join_of_mem h

/-- template message: every field appears with its name, length and enterprise id -/
theorem render_complete_template (m : Msg) (ht : m.isTemplate = true) (r : List (IE × Value)) (ie : IE) (v : Value)
    (hr : r ∈ m.records) (hf : (ie, v) ∈ r) :
    ∃ pre post, render m = pre ++ tplLine ie ++ post := by
  have h := render_complete_lines m r (ie, v) hr hf
  rw [ht] at h
  exact String.join_of_mem h

/-- the value shown is the element's value: e.g. signed integers are printed as the integer
    their two's-complement pattern denotes, unsigned ones as the number itself -/
theorem fmtValue_numeric (name : String) (id ent len n : Nat) :
    fmtValue ⟨name, id, .unsigned32, ent, len⟩ (.num n) = toString n ∧
    fmtValue ⟨name, id, .unsigned64, ent, len⟩ (.num n) = toString n ∧
    fmtValue ⟨name, id, .signed32, ent, len⟩ (.num n) = toString (ofTwos 4 n) ∧
    fmtValue ⟨name, id, .signed64, ent, len⟩ (.num n) = toString (ofTwos 8 n) := ⟨rfl, rfl, rfl, rfl⟩

/-! ## The model's own trace satisfies the Spec predicate -/

/-- "arrival order" in the model is the order of the `addIPFIXMessage` calls. In the program those calls come from ONE
    place, the message case of `signalHandler`'s loop, as a plain (synchronous) call: the loop takes the next message off
    the channel only when the previous one has been stored. A `go addIPFIXMessage(msg)` there would store messages in
    completion order - nothing a harness that calls `addIPFIXMessage` itself can see. -/
theorem tie_store_fed_in_arrival_order :
    Generated.storeFeed = [("signalHandler", "call", "addIPFIXMessage")] := by decide +kernel

/-- the compiled checker evaluates `missingField` in one pass over the entry (`missingFieldFast`: each demanded
    line is looked up behind the previous one; only if that fails does the specification's own search decide).
    The two are EQUAL - this equation is what `@[csimp]` hands to the compiler (Spec/C20), restated here
    so that its axioms are audited with the property theorems. -/
theorem chk_search_is_the_specified_one : @missingField = @missingFieldFast := missingField_eq_fast

theorem missingField_render (m : Msg) : missingField m (render m) = none := by
  simp only [missingField, Option.map_eq_none_iff, List.find?_eq_none]
  intro f hf
  obtain ⟨r, hr, hfr⟩ := List.mem_flatten.mp hf
  have hocc : occursIn _ (render m) = true := occursIn_of_eq (String.join_of_mem (mem_renderLines hr hfr))
  unfold demandedLine
  cases hT : m.isTemplate with
  | true => simp_all [elemLine]
  | false =>
    cases hv : valueShown f.1.ty with
    | true => simp_all [elemLine]
    | false => simp

/-- from any related pair (store = window of the tracker) every step of the model is what the
    predicate demands, and the pair stays related -/
theorem holdsFrom_model (ops : List Op) : ∀ (s : Store) (t : Tracker), s.items = t.window →
    holdsFrom t (ops.zip (s.run ops)) = true := by
  induction ops with
  | nil => intro s t _; rfl
  | cons op ops ih =>
    intro s t h
    have hw : s.items = takeLast cap t.arrivals := h.trans (window_eq_takeLast t)
    simp only [run, List.zip_cons_cons, holdsFrom, Bool.and_eq_true]
    refine ⟨?_, ih _ _ ?_⟩
    · cases op with
      | add m =>
        have hlen : (s.add (render m)).items.length = min cap (t.rev.length + 1) := by
          rw [add_window _ hw, takeLast_length, List.length_append, List.length_singleton, Tracker.arrivals,
            List.length_reverse]
        simp only [holdsStep, step, verdict, missingField_render, hlen, ne_eq, not_true_eq_false, if_false,
          Option.isNone_none]
      | records method c f =>
        rw [holdsStep, step, verdict_records]
        · rfl
        · -- what is to be refused is refused
          intro hr
          rw [is4xx, query_refused s method c f hr]
          rfl
        · -- a valid query is answered from the store, which holds what the tracker expects
          rintro n fm rfl hc hf
          rw [handleRecords_get s hc hf, query_expected h]
          exact ⟨rfl, rfl⟩
      | reset method =>
        by_cases hm : method = "POST"
        · subst hm
          rfl
        · simp only [holdsStep, step, verdict, handleReset, if_neg hm]
          rfl
    · rw [window_eq_takeLast, next_arrivals]
      exact step_window op hw

/-- every trace of the model that starts from the empty store satisfies C20's predicate -/
theorem model_trace_holds (ops : List Op) : holdsTrace (ops.zip (Store.empty.run ops)) = true :=
  holdsFrom_model ops _ _ (by simp [Store.empty, Tracker.init, Tracker.window])

/-- ... and also from any store that is within the cap, taken as the arrivals so far -/
theorem model_trace_holds_from (ops : List Op) (s : Store) (h : s.items.length ≤ cap) :
    holdsFrom ⟨s.items.reverse⟩ (ops.zip (s.run ops)) = true :=
  holdsFrom_model ops _ _ (by simp [Tracker.window, List.take_of_length_le, h])

/-! ## Non-vacuity: the hypotheses above are satisfiable -/

def exIE : IE := ⟨"protocolIdentifier", 4, .unsigned8, 0, 1⟩
def exMsg : Msg := ⟨10, 33, 0, 1, 2, false, [[(exIE, .num 6)]]⟩

example : Store.empty.items.length ≤ cap := by decide
example : Store.empty.items = takeLast cap [] := rfl
example : countArg none = some none ∧ formatArg none = some .json := ⟨rfl, rfl⟩
example : countArg (some "3") = some (some 3) ∧ formatArg (some "text") = some .text := by decide +kernel
example : countArg (some "-1") = none ∧ countArg (some "x") = none ∧ formatArg (some "xml") = none := by decide +kernel
example : exMsg.isTemplate = false ∧ [(exIE, Value.num 6)] ∈ exMsg.records ∧ (exIE, Value.num 6) ∈ [(exIE, Value.num 6)] := by
  simp [exMsg]
example : ∃ s : Store, s.items.length ≤ cap ∧ s.items ≠ [] := ⟨⟨["e"]⟩, by decide, by simp⟩
example : (arrivals [] [.add exMsg, .reset "GET", .add exMsg]).length = 2 := rfl
example : valueShown exIE.ty = true := rfl

end Ipfix.C20
