import IpfixModel.Props.C01
import IpfixModel.Props.C02
import IpfixModel.Props.C03
import IpfixModel.Props.C04
import IpfixModel.Props.C05
import IpfixModel.Props.C06
import IpfixModel.Props.C07
import IpfixModel.Props.C08
import IpfixModel.Props.C09
import IpfixModel.Props.C10
import IpfixModel.Props.C11
import IpfixModel.Props.C12
import IpfixModel.Props.C13
import IpfixModel.Props.C14
import IpfixModel.Props.C15
import IpfixModel.Props.C16
import IpfixModel.Props.C17
import IpfixModel.Props.C18
import IpfixModel.Props.C19
import IpfixModel.Props.C20
